import Imdlv.Generated.Consts
import Imdlv.Lemmas.Basic
import Imdlv.Lemmas.Bencode
import Imdlv.Lemmas.BencodeComplete
import Imdlv.Lemmas.ByteSize
import Imdlv.Lemmas.ByteSizeFrac
import Imdlv.Lemmas.CreateFx
import Imdlv.Lemmas.Hasher
import Imdlv.Lemmas.HonestConcrete
import Imdlv.Lemmas.HostDomain
import Imdlv.Lemmas.HostIpv4
import Imdlv.Lemmas.HostIpv6
import Imdlv.Lemmas.HostOk
import Imdlv.Lemmas.HostPort
import Imdlv.Lemmas.Lints
import Imdlv.Lemmas.Load
import Imdlv.Lemmas.LoadRoundTrip
import Imdlv.Lemmas.Magnet
import Imdlv.Lemmas.Metainfo
import Imdlv.Lemmas.PathText
import Imdlv.Lemmas.Paths
import Imdlv.Lemmas.Peer
import Imdlv.Lemmas.ReadBack
import Imdlv.Lemmas.Streams
import Imdlv.Lemmas.Tracker
import Imdlv.Lemmas.TypedRoundTrip
import Imdlv.Lemmas.Verifier
import Imdlv.Lemmas.Walker
import Imdlv.Model.Basic
import Imdlv.Model.Bencode
import Imdlv.Model.ByteSize
import Imdlv.Model.Completions
import Imdlv.Model.CreateFx
import Imdlv.Model.Digest
import Imdlv.Model.Hasher
import Imdlv.Model.HostPort
import Imdlv.Model.Infohash
import Imdlv.Model.Lints
import Imdlv.Model.Load
import Imdlv.Model.Magnet
import Imdlv.Model.Metainfo
import Imdlv.Model.NoPanic
import Imdlv.Model.Paths
import Imdlv.Model.Peer
import Imdlv.Model.Streams
import Imdlv.Model.Summary
import Imdlv.Model.Table
import Imdlv.Model.Tracker
import Imdlv.Model.Verifier
import Imdlv.Model.Walker
import Imdlv.Model.WriteAll
import Imdlv.Props.C01
import Imdlv.Props.C02
import Imdlv.Props.C02Paths
import Imdlv.Props.C02Text
import Imdlv.Props.C03
import Imdlv.Props.C03Paths
import Imdlv.Props.C04
import Imdlv.Props.C05
import Imdlv.Props.C06
import Imdlv.Props.C06Tree
import Imdlv.Props.C07
import Imdlv.Props.C08
import Imdlv.Props.C08Table
import Imdlv.Props.C09
import Imdlv.Props.C09Paths
import Imdlv.Props.C10
import Imdlv.Props.C10Own
import Imdlv.Props.C11
import Imdlv.Props.C11Multi
import Imdlv.Props.C12
import Imdlv.Props.C13
import Imdlv.Props.C13Paths
import Imdlv.Props.C14
import Imdlv.Props.C15
import Imdlv.Props.C16
import Imdlv.Props.C17
import Imdlv.Props.C18
import Imdlv.Props.C18Write
import Imdlv.Props.C19
