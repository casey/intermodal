import Imdlv.Model.ByteSize
import Imdlv.Lemmas.Basic
/-!
# Byte sizes: the `f64` steps of the code as integer arithmetic (C16)

`rn53` rounds a fraction to a 53-bit mantissa by `rhe` (round half to even). The one real fact is `rn53_trunc`:
rounding, scaling by `2 ^ k` and truncating gives `⌊N · 2 ^ k / D⌋` while `N · 2 ^ k` fits in 53 bits. The rest
serves the parser's digit strings and the unit search of the display.
-/
namespace Imdlv.ByteSize

/-- round half to even of `a / b`: the rounding step written out in `rn53` and in `hundredths` -/
def rhe (a b : Nat) : Nat :=
  if 2 * (a % b) > b ∨ (2 * (a % b) = b ∧ a / b % 2 = 1) then a / b + 1 else a / b

/-- `rhe a b` is within half a unit of `a / b` -/
theorem rhe_bound (a b : Nat) (hb : 0 < b) :
    2 * (rhe a b * b - a) ≤ b ∧ 2 * (a - rhe a b * b) ≤ b := by
  have hdm := Nat.div_add_mod' a b
  have hr := Nat.mod_lt a hb
  unfold rhe
  split
  · rw [Nat.add_one_mul (a / b) b]; omega
  · omega

theorem rhe_one (a : Nat) : rhe a 1 = a := by simp [rhe, Nat.mod_one]

/-- rounding `A·P/D` to an integer `m` and then dividing by `P` gives `F = ⌊A/D⌋` as soon as
`D < 2P`: `|m·D − A·P| ≤ D/2 < P` and `F·P·D ≤ A·P ≤ (F+1)·P·D − P`, so `F·P·D < (m+1)·D` and
`m·D < (F+1)·P·D`. Only the half-unit bound of the rounding is used, not how ties are broken. -/
theorem rhe_div {A D P : Nat} (hD : 0 < D) (hP : D < 2 * P) : rhe (A * P) D / P = A / D := by
  have hAP : A * P = A / D * P * D + A % D * P := by
    rw [Nat.mul_right_comm, ← Nat.add_mul, Nat.div_add_mod']
  refine Nat.div_eq_of_lt_le (Nat.le_of_lt_succ (Nat.lt_of_mul_lt_mul_right (a := D) ?_))
    (Nat.lt_of_mul_lt_mul_right (a := D) ?_)
  · have := (rhe_bound (A * P) D hD).2
    rw [Nat.add_one_mul]; omega
  · have := (rhe_bound (A * P) D hD).1
    have : A % D * P + P ≤ P * D := by
      rw [← Nat.add_one_mul, Nat.mul_comm P D]; exact Nat.mul_le_mul_right P (Nat.mod_lt A hD)
    rw [Nat.add_one_mul, Nat.add_mul]; omega

/-! ### scaling by `2 ^ e`, `e : Int`

The model scales by a power of two with an integer exponent in four places (`scaledQ`, numerator and
denominator in `rn53`, `floorScaled`), each an `if e ≥ 0` over `e.toNat` and `(-e).toNat`. One of
the two is `0`, so both factors can be written out and the `if` goes. -/

theorem two_pow_neg_toNat_of_nonneg {e : Int} (h : e ≥ 0) : 2 ^ (-e).toNat = 1 := by
  rw [Int.toNat_of_nonpos (Int.neg_nonpos_of_nonneg h), Nat.pow_zero]

theorem two_pow_toNat_of_neg {e : Int} (h : ¬ e ≥ 0) : 2 ^ e.toNat = 1 := by
  rw [Int.toNat_of_nonpos (Int.le_of_lt (Int.not_le.mp h)), Nat.pow_zero]

theorem scaledQ_eq (num den : Nat) (e : Int) :
    scaledQ num den e = num * 2 ^ (-e).toNat / (den * 2 ^ e.toNat) := by
  unfold scaledQ
  by_cases h : e ≥ 0
  · rw [if_pos h, two_pow_neg_toNat_of_nonneg h, Nat.mul_one]
  · rw [if_neg h, two_pow_toNat_of_neg h, Nat.mul_one]

theorem floorScaled_eq (m : Nat) (e : Int) : floorScaled m e = m * 2 ^ e.toNat / 2 ^ (-e).toNat := by
  unfold floorScaled
  by_cases h : e ≥ 0
  · rw [if_pos h, two_pow_neg_toNat_of_nonneg h, Nat.div_one]
  · rw [if_neg h, two_pow_toNat_of_neg h, Nat.mul_one]

theorem floorScaled_sub (m k s : Nat) : floorScaled m ((k : Int) - s) = m * 2 ^ (k - s) / 2 ^ (s - k) := by
  rw [floorScaled_eq, Int.neg_sub, Int.toNat_sub, Int.toNat_sub]

/-- `rn53` on a non-zero fraction: the exponent is one of two candidates, the scaled fraction
has at least 53 significant bits, and the mantissa is its `rhe`. -/
theorem rn53_spec (num den : Nat) (hn : num ≠ 0) (hd : 0 < den) :
    ∃ e : Int, (Nat.log2 num : Int) - Nat.log2 den - 53 ≤ e ∧ e ≤ (Nat.log2 num : Int) - Nat.log2 den - 52 ∧
      2 ^ 52 * (den * 2 ^ e.toNat) ≤ num * 2 ^ (-e).toNat ∧
      rn53 num den = (rhe (num * 2 ^ (-e).toNat) (den * 2 ^ e.toNat), e) := by
  have hnum (e : Int) : (if e ≥ 0 then num else num * 2 ^ (-e).toNat) = num * 2 ^ (-e).toNat := by
    by_cases h : e ≥ 0
    · rw [if_pos h, two_pow_neg_toNat_of_nonneg h, Nat.mul_one]
    · rw [if_neg h]
  have hden (e : Int) : (if e ≥ 0 then den * 2 ^ e.toNat else den) = den * 2 ^ e.toNat := by
    by_cases h : e ≥ 0
    · rw [if_pos h]
    · rw [if_neg h, two_pow_toNat_of_neg h, Nat.mul_one]
  by_cases hq : scaledQ num den ((Nat.log2 num : Int) - Nat.log2 den - 52) ≥ 2 ^ 52
  · refine ⟨_, by omega, Int.le_refl _, ?_, ?_⟩
    · rw [scaledQ_eq] at hq
      exact (Nat.le_div_iff_mul_le (Nat.mul_pos hd (Nat.two_pow_pos _))).mp hq
    · simp only [rn53, if_neg hn, if_pos hq, hnum, hden, rhe]
  · refine ⟨(Nat.log2 num : Int) - Nat.log2 den - 52 - 1, by omega, by omega, ?_, ?_⟩
    · -- the lower candidate always has 53 bits: `den < 2 ^ (log2 den + 1)`, `2 ^ log2 num ≤ num`,
      -- and the exponents add up to the same since `e.toNat - (-e).toNat = e`
      generalize he : (Nat.log2 num : Int) - Nat.log2 den - 52 - 1 = e
      calc 2 ^ 52 * (den * 2 ^ e.toNat)
          ≤ 2 ^ 52 * (2 ^ (Nat.log2 den + 1) * 2 ^ e.toNat) :=
            Nat.mul_le_mul_left _ (Nat.mul_le_mul_right _ (Nat.le_of_lt Nat.lt_log2_self))
        _ = 2 ^ Nat.log2 num * 2 ^ (-e).toNat := by
            rw [← Nat.pow_add, ← Nat.pow_add, ← Nat.pow_add]; congr 1; omega
        _ ≤ num * 2 ^ (-e).toNat := Nat.mul_le_mul_right _ (Nat.log2_self_le hn)
    · simp only [rn53, if_neg hn, if_neg hq, hnum, hden, rhe]

/-- **Round, scale by a power of two, truncate**: when `N·2^k` fits in 53 bits, rounding `N/D` to
53 bits first does not change `⌊N·2^k/D⌋`. The rounded value has exponent `-s` for a natural `s`.
For `s = k + j` this is `rhe_div` with `P = 2^j`; `D < 2P` because the mantissa has 53 bits and
`N·2^k` at most 53. For `k = s + j` only `D = 1` is left, where nothing is rounded. -/
theorem rn53_trunc (N D k : Nat) (hD : 0 < D) (hfit : N * 2 ^ k < 2 ^ 53) :
    floorScaled (rn53 N D).1 ((rn53 N D).2 + (k : Int)) = N * 2 ^ k / D := by
  by_cases hN : N = 0
  · subst hN; simp [rn53, floorScaled_eq]
  obtain ⟨e, _, he, hnorm, hr⟩ := rn53_spec N D hN hD
  have hN53 : N < 2 ^ 53 := Nat.lt_of_le_of_lt (Nat.le_mul_of_pos_right N (Nat.two_pow_pos k)) hfit
  have := (Nat.log2_lt hN).mpr hN53
  obtain ⟨s, rfl⟩ := Int.exists_eq_neg_ofNat (show e ≤ 0 by omega)
  rw [hr, Int.add_comm, ← Int.sub_eq_add_neg, floorScaled_sub]
  simp only [Int.neg_neg, Int.toNat_natCast, Int.toNat_neg_natCast, Nat.pow_zero, Nat.mul_one] at hnorm ⊢
  by_cases hks : k < s
  · obtain ⟨j, rfl⟩ := Nat.exists_eq_add_of_le (Nat.le_of_lt hks)
    rw [Nat.pow_add, ← Nat.mul_assoc] at hnorm ⊢
    rw [Nat.sub_eq_zero_of_le (Nat.le_add_right k j), Nat.add_sub_cancel_left, Nat.pow_zero, Nat.mul_one]
    have := Nat.mul_lt_mul_of_pos_right hfit (Nat.two_pow_pos j)
    exact rhe_div hD (by omega)
  · obtain ⟨j, rfl⟩ := Nat.exists_eq_add_of_le (Nat.not_lt.mp hks)
    have := Nat.mul_le_mul_left N (Nat.pow_le_pow_right (Nat.zero_lt_two) (Nat.le_add_right s j))
    obtain rfl : D = 1 := by omega
    rw [Nat.sub_eq_zero_of_le (Nat.le_add_right s j), Nat.add_sub_cancel_left, rhe_one, Nat.pow_zero,
      Nat.div_one, Nat.div_one, Nat.mul_assoc, ← Nat.pow_add]

theorem round53_small (n : Nat) (h : n < 2 ^ 53) : round53 n = n := by
  simpa [round53] using rn53_trunc n 1 0 (by omega) (by omega)

/-- rounding to a double adds at most half a unit in the last of its 53 places, so certainly no more than `n` -/
theorem round53_le (n : Nat) : round53 n ≤ 2 * n := by
  by_cases hn0 : n = 0
  · subst hn0; decide
  · obtain ⟨e, -, -, h52, hr⟩ := rn53_spec n 1 hn0 Nat.one_pos
    unfold round53
    simp only [hr, floorScaled_eq]
    by_cases he : e ≥ 0
    · -- scaled down by `2^e`, rounded, scaled up again
      rw [two_pow_neg_toNat_of_nonneg he, Nat.mul_one, Nat.one_mul] at h52 ⊢
      rw [Nat.div_one]
      have := (rhe_bound n (2 ^ e.toNat) (Nat.two_pow_pos _)).1
      replace h52 := Nat.le_trans (Nat.le_mul_of_pos_left (2 ^ e.toNat) (by decide)) h52
      omega
    · -- scaled up by a power of two and down again: exact
      rw [two_pow_toNat_of_neg he, rhe_one, Nat.mul_one, Nat.mul_div_cancel _ (Nat.two_pow_pos _)]
      exact Nat.le_mul_of_pos_left n (by decide)

theorem isPow2_spec (m : Nat) (h : isPow2 m = true) : m = 2 ^ Nat.log2 m := by
  simp only [isPow2, Bool.and_eq_true, bne_iff_ne, ne_eq, beq_iff_eq] at h
  exact h.2.symm

/-- the numeral C16 feeds the parser; the model's `natChars` (display) is core's `Nat.toDigits 10`, not related here -/
def natChars' (n : Nat) : List Char :=
  if n < 10 then [digitCh n] else natChars' (n / 10) ++ [digitCh (n % 10)]
termination_by n
decreasing_by omega

theorem isDigitCh_dot : isDigitCh '.' = false := by decide

theorem digitCh_spec : ∀ k < 10, (digitCh k).toNat - 48 = k ∧ isDigitCh (digitCh k) = true := by decide

theorem digitCh_mod (k : Nat) : digitCh (k % 10) = digitCh k := by rw [digitCh, Nat.mod_mod, ← digitCh]

theorem digitCh_isDigit (k : Nat) : isDigitCh (digitCh k) = true :=
  digitCh_mod k ▸ (digitCh_spec (k % 10) (Nat.mod_lt _ (by decide))).2

theorem digitCh_ne (k : Nat) (hk : k % 10 ≠ 0) : digitCh k ≠ '0' ∧ digitCh k ≠ '.' := by
  obtain ⟨hv, hd⟩ := digitCh_spec (k % 10) (Nat.mod_lt _ (by decide))
  rw [digitCh_mod] at hv hd
  exact ⟨fun hc => hk (by rw [← hv, hc]; decide), fun hc => absurd hd (by rw [hc, isDigitCh_dot]; decide)⟩

theorem digitsVal_snoc (ds : List Char) (c : Char) :
    digitsVal (ds ++ [c]) = 10 * digitsVal ds + (c.toNat - 48) := by
  simp [digitsVal, List.foldl_append]

theorem natChars'_eq : natChars' = digitsOf digitCh := by
  funext n; induction n using natChars'.induct <;> rw [natChars', digitsOf] <;> simp [*]

theorem digitsVal_natChars' (n : Nat) : digitsVal (natChars' n) = n := by
  rw [natChars'_eq, digitsVal]; exact foldl_digitsOf (fun k hk => (digitCh_spec k hk).1) n

theorem natChars'_all_digits (n : Nat) : (natChars' n).all isDigitCh = true := by
  rw [natChars'_eq, List.all_eq_true]; exact forall_mem_digitsOf (fun k _ => digitCh_isDigit k) n

theorem natChars'_ne_nil (n : Nat) : natChars' n ≠ [] := natChars'_eq ▸ digitsOf_ne_nil n

theorem lookupSuffix_mem {s : List Char} {tbl : List (List Char × Nat)} {m : Nat}
    (h : lookupSuffix s tbl = some m) : (s, m) ∈ tbl := by
  induction tbl with
  | nil => simp [lookupSuffix] at h
  | cons e t ih =>
    obtain ⟨k, v⟩ := e
    unfold lookupSuffix at h
    split at h
    · rename_i hk; simp at h; subst h; subst hk; simp
    · exact List.mem_cons_of_mem _ (ih h)

theorem unitIndexAux_spec (step : Nat) (hs : 0 < step) (fuel v i : Nat)
    (hlo : step ^ i ≤ v ∨ i = 0) (hf : v < step ^ (i + fuel)) :
    let j := unitIndexAux step fuel v i
    (step ^ j ≤ v ∨ j = 0) ∧ v < step ^ (j + 1) := by
  induction fuel generalizing i with
  | zero => exact ⟨hlo, Nat.lt_of_lt_of_le hf (Nat.pow_le_pow_right hs (Nat.le_succ i))⟩
  | succ f ih =>
    simp only [unitIndexAux]
    split
    · next hge => exact ih (i + 1) (.inl hge) (by rw [Nat.add_assoc, Nat.add_comm 1 f]; exact hf)
    · next hlt => exact ⟨hlo, Nat.not_le.mp hlt⟩

/-- seven steps are enough below `1024 ^ 7 = 2 ^ 70` -/
theorem unitIndex_spec (v : Nat) (hv : v < 2 ^ 70) :
    (1024 ^ unitIndex v ≤ v ∨ unitIndex v = 0) ∧ v < 1024 ^ (unitIndex v + 1) :=
  unitIndexAux_spec 1024 (by decide) 7 v 0 (.inr rfl) (Nat.lt_of_lt_of_eq hv (by decide))

theorem hundredths_eq_rhe (v unit : Nat) : hundredths v unit = rhe (v * 100) unit := rfl

end Imdlv.ByteSize
