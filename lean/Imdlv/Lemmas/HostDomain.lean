import Imdlv.Model.HostPort
/-!
# The characters of domains (C17)

`DomainOk d` describes the domain texts the concrete parser produces: non-empty,
lower-case letters, digits, `-` and `.` only, no `xn--` label, not ending in a
number. An LDH character is ASCII, so what the host parser asks of each character
is read off a table of the 128 ASCII characters (`ldh_table`, `ldh_facts`).
-/
namespace Imdlv.HostPort

def isLdhLower (c : Char) : Bool := c.isLower || c.isDigit || c == '-' || c == '.'

def DomainOk (d : List Char) : Prop :=
  d.isEmpty = false ∧ d.all isLdhLower = true ∧
  (splitOnCh '.' d).any (fun l => l.take 4 == "xn--".toList) = false ∧ endsInNumber d = false

theorem ldh_of_lower (c : Char) (h : isLdhLower c = true) : isLdh c = true := by
  simp only [isLdhLower, isLdh, Char.isAlphanum, Char.isAlpha, Bool.or_eq_true] at h ⊢
  rcases h with ((h | h) | h) | h <;> simp [h]

theorem lower_of_digit (c : Char) (h : isDigitCh c = true) : isLdhLower c = true := by
  simp [isLdhLower, show c.isDigit = true from h]

theorem ldh_lt (c : Char) (h : isLdh c = true) : c.toNat < 128 := by
  have : c.val ≤ 122 := by
    simp only [isLdh, Char.isAlphanum, Char.isAlpha, Char.isUpper, Char.isLower, Char.isDigit, Bool.or_eq_true,
      Bool.and_eq_true, decide_eq_true_eq, beq_iff_eq] at h
    rcases h with (((h | h) | h) | h) | h
    · exact UInt32.le_trans h.2 (by decide)
    · exact h.2
    · exact UInt32.le_trans h.2 (by decide)
    · subst h; decide
    · subst h; decide
  exact Nat.lt_of_le_of_lt (UInt32.le_iff_toNat_le.mp this) (by decide)

theorem ldh_table : ∀ n, n < 128 → isLdh (Char.ofNat n) = true →
    forbiddenHostCh (Char.ofNat n) = false ∧
    (Char.ofNat n == '%' || decide ((Char.ofNat n).toNat ≥ 128)) = false ∧
    isLdhLower (lowerAscii (Char.ofNat n)) = true ∧
    (isLdhLower (Char.ofNat n) = true → lowerAscii (Char.ofNat n) = Char.ofNat n) := by
  decide +kernel

theorem ldh_facts (c : Char) (h : isLdh c = true) :
    forbiddenHostCh c = false ∧ (c == '%' || decide (c.toNat ≥ 128)) = false ∧
      isLdhLower (lowerAscii c) = true ∧ (isLdhLower c = true → lowerAscii c = c) := by
  have := ldh_table c.toNat (ldh_lt c h)
  rw [Char.ofNat_toNat] at this
  exact this h

theorem lower_fixed (c : Char) (h : isLdhLower c = true) : lowerAscii c = c :=
  (ldh_facts c (ldh_of_lower c h)).2.2.2 h

example : DomainOk "tracker.example-1.org".toList := by
  unfold DomainOk
  decide +kernel

end Imdlv.HostPort
