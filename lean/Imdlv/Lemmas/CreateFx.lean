import Imdlv.Model.CreateFx
import Imdlv.Lemmas.Basic
/-!
# `create` makes at most one guarded write

`decisionAt_cases` says when, `createAt_cases` what the file system is afterwards.
-/

namespace Imdlv.C09
open Imdlv.CreateFx

/-- where the bytes land: the output path, or the target of a dangling link found there -/
def landing (fs : FS) (out : String) : String :=
  match fs out with
  | .link t => t
  | _ => out

end Imdlv.C09

namespace Imdlv.CreateFx
open C09 (landing)

/-- what the one write presupposes -/
structure WriteOk (fsC fsO : FS) (r : Req) (out : String) : Prop where
  path : finalPath fsC r = some out
  notDry : r.dryRun = false
  noFault : r.fault = .none
  free : r.force = true ∨ fsO out = .absent

theorem WriteOk.unforced {fsC fsO : FS} {r : Req} {out : String} (hw : WriteOk fsC fsO r out)
    (hf : r.force = false) : fsO out = .absent ∧ landing fsO out = out := by
  have h := hw.free.resolve_left (by simp [hf])
  exact ⟨h, by simp [landing, h]⟩

theorem update_of_ne {fs : FS} {p q : String} {n : Node} (h : q ≠ p) : update fs p n q = fs q := if_neg h

theorem openWrite_cases (fs : FS) (force : Bool) (out : String) :
    openWrite fs force out = .fail ∨
      openWrite fs force out = .write (landing fs out) ∧ (force = true ∨ fs out = .absent) := by
  unfold openWrite landing
  cases fs out <;> cases force <;> simp

theorem decisionAt_cases (fsC fsO : FS) (r : Req) :
    decisionAt fsC fsO r = .fail ∨
    decisionAt fsC fsO r = .noop ∧ (finalPath fsC r = none ∨ r.dryRun = true) ∨
    ∃ out, decisionAt fsC fsO r = .write (landing fsO out) ∧ WriteOk fsC fsO r out := by
  generalize hd : decisionAt fsC fsO r = d
  rw [decisionAt] at hd
  -- the guards in the order of `Create::run`; each either decides or is passed
  obtain ⟨_, h⟩ | ⟨h1, hd⟩ := ite_eq_cases hd; · exact .inl h.symm
  cases hout : finalPath fsC r with
  | none =>
    rw [hout] at hd
    obtain ⟨_, h⟩ | ⟨_, hd⟩ := ite_eq_cases hd; · exact .inl h.symm
    exact .inr (.inl ⟨hd.symm, .inl rfl⟩)
  | some out =>
    rw [hout] at hd
    obtain ⟨_, h⟩ | ⟨_, hd⟩ := ite_eq_cases hd; · exact .inl h.symm
    obtain ⟨_, h⟩ | ⟨h3, hd⟩ := ite_eq_cases hd; · exact .inl h.symm
    obtain ⟨h4, h⟩ | ⟨h4, hd⟩ := ite_eq_cases hd; · exact .inr (.inl ⟨h.symm, .inr h4⟩)
    obtain ⟨_, h⟩ | ⟨h5, hd⟩ := ite_eq_cases hd; · exact .inl h.symm
    subst hd
    refine (openWrite_cases fsO r.force out).imp_right fun ⟨h, hf⟩ =>
      .inr ⟨out, h, hout, Bool.eq_false_iff.2 h4, ?_, hf⟩
    match hf : r.fault with
    | .none => rfl
    | .beforeOutputCheck => exact absurd hf h1
    | .whileHashing => exact absurd hf h3
    | .atOpen => exact absurd hf h5

theorem createAt_cases (fsC fsO : FS) (r : Req) :
    createAt fsC fsO r = (fsO, .error) ∨
    createAt fsC fsO r = (fsO, .ok) ∧ (finalPath fsC r = none ∨ r.dryRun = true) ∨
    ∃ out, createAt fsC fsO r = (update fsO (landing fsO out) (.file r.bytes), .ok) ∧
      WriteOk fsC fsO r out := by
  rcases decisionAt_cases fsC fsO r with h | ⟨h, h'⟩ | ⟨out, h, h'⟩
  · exact .inl (by rw [createAt, h])
  · exact .inr (.inl ⟨by rw [createAt, h], h'⟩)
  · exact .inr (.inr ⟨out, by rw [createAt, h], h'⟩)

theorem failure_frame_at (fsC fsO : FS) (r : Req) (h : (createAt fsC fsO r).2 = .error) :
    (createAt fsC fsO r).1 = fsO := by
  rcases createAt_cases fsC fsO r with h' | ⟨h', _⟩ | ⟨out, h', _⟩
  · rw [h']
  · rw [h']
  · rw [h'] at h; cases h -- a write ends in `.ok`

theorem success_is_write {fsC fsO : FS} {r : Req} {out : String} (hout : finalPath fsC r = some out)
    (hok : (createAt fsC fsO r).2 = .ok) (hd : r.dryRun = false) :
    (createAt fsC fsO r).1 = update fsO (landing fsO out) (.file r.bytes) ∧ WriteOk fsC fsO r out := by
  rcases createAt_cases fsC fsO r with h | ⟨_, h | h⟩ | ⟨out', h, hw⟩
  · rw [h] at hok; cases hok
  · cases hout.symm.trans h
  · cases hd.symm.trans h
  · cases hout.symm.trans hw.path; exact ⟨by rw [h], hw⟩

end Imdlv.CreateFx
