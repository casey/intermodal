import Imdlv.Lemmas.ReadBack
import Imdlv.Model.Peer
/-!
# The typed reader reads back what the typed writer wrote

`readInfoC (encode i.toBVal) = some i` for every info dictionary made of the keys imdl models
(UTF-8 text where serde demands `String`, 16-byte MD5 digests, `pieces` a multiple of 20, integers
and lengths in range). This closes the loop create → serialise → load inside the model, and
discharges the reader hypotheses of `C11.honest_complete` for the concrete readers.
-/
namespace Imdlv.Metainfo
open Imdlv Imdlv.Bencode Imdlv.Peer

theorem isUtf8_of_ascii {b : Bytes} (h : ∀ x ∈ b, x < 128) : isUtf8 b = true := by
  induction b with
  | nil => rfl
  | cons x t ih =>
    obtain ⟨hx, ht⟩ := List.forall_mem_cons.mp h
    exact (if_pos hx).trans (ih ht)

theorem keysUtf8_of_entries : ∀ (d : BDict), (∀ e ∈ d.toList, isUtf8 e.1 = true) → keysUtf8 d = true
  | .nil, _ => rfl
  | .cons k v t, h => by
    obtain ⟨hk, ht⟩ := List.forall_mem_cons.mp h
    simp only [keysUtf8, hk, keysUtf8_of_entries t ht, Bool.and_self]

theorem struct_keysUtf8 (fs : List (Bytes × Option BVal)) (hk : FieldNames (fs.map (·.1))) :
    keysUtf8 (structDict fs) = true :=
  keysUtf8_of_entries _ fun e he => isUtf8_of_ascii (hk.2 e.1 (key_mem_structDict he)).2

theorem unhexNibble_hexNibble : ∀ n, n < 16 → unhexNibble (hexNibble n) = some n := by decide

theorem unhex32_hexLower (m : Bytes) : unhex32 (hexLower m) = some m := by
  induction m with
  | nil => rfl
  | cons x t ih =>
    have h1 : x.toNat / 16 < 16 := Nat.div_lt_of_lt_mul x.toNat_lt
    have h2 : x.toNat % 16 < 16 := Nat.mod_lt _ (by decide)
    show unhex32 (hexNibble (x.toNat / 16) :: hexNibble (x.toNat % 16) :: hexLower t) = _
    rw [unhex32, unhexNibble_hexNibble _ h1, unhexNibble_hexNibble _ h2, ih]
    exact congrArg (some <| · :: t) (byte_recompose x)

theorem strList_strs (l : List Bytes) (h : ∀ c ∈ l, isUtf8 c = true) : strList (BList.ofList (l.map bstr)) = some l := by
  induction l with
  | nil => rfl
  | cons c t ih =>
    obtain ⟨hc, ht⟩ := List.forall_mem_cons.mp h
    simp only [List.map_cons, BList.ofList, bstr, strList, hc, if_true, ih ht, Option.map_some]

/-! ### what the typed reader demands beyond what bencode can carry -/

def md5Ok (o : Option Bytes) : Prop := ∀ m, o = some m → m.length = 16

def FileM.Typed (f : FileM) : Prop := f.length < 2 ^ 63 ∧ (∀ c ∈ f.path, isUtf8 c = true ∧ c.length < 2 ^ 64) ∧ md5Ok f.md5

def ModeM.Typed : ModeM → Prop
  | .single n md5 => n < 2 ^ 63 ∧ md5Ok md5
  | .multiple fs => ∀ f ∈ fs, f.Typed

def InfoM.Typed (urlOk : Bytes → Bool) (i : InfoM) : Prop :=
  i.pieceLength < 2 ^ 63 ∧ isUtf8 i.name = true ∧ i.name.length < 2 ^ 64 ∧
  (∀ s, i.source = some s → isUtf8 s = true ∧ s.length < 2 ^ 64) ∧
  i.pieces.length % 20 = 0 ∧ i.pieces.length < 2 ^ 64 ∧ i.mode.Typed ∧
  (∀ u, i.updateUrl = some u → isUtf8 u = true ∧ urlOk u = true ∧ u.length < 2 ^ 64)

theorem md5Ok.lt {o : Option Bytes} (h : md5Ok o) (m : Bytes) (hm : o = some m) : m.length < 2 ^ 63 := by
  rw [h m hm]; decide

theorem FileM.Typed.ok {f : FileM} (h : f.Typed) : f.Ok :=
  ⟨h.1, fun c hc => (h.2.1 c hc).2, h.2.2.lt⟩

theorem ModeM.Typed.ok {m : ModeM} (h : m.Typed) : m.Ok := by
  cases m with
  | single n md5 => exact ⟨h.1, h.2.lt⟩
  | multiple fs => exact fun f hf => (h f hf).ok

theorem InfoM.Typed.ok {urlOk : Bytes → Bool} {i : InfoM} (h : i.Typed urlOk) : i.Ok := by
  obtain ⟨hpl, _, hnl, hsrc, _, hpl', hmode, hurl⟩ := h
  exact ⟨hpl, hnl, fun s hs => (hsrc s hs).2, hpl', hmode.ok, fun u hu => (hurl u hu).2.2⟩

theorem readMd5_of {d : BDict} {md5 : Option Bytes} (hm : md5Ok md5)
    (hl : d.lookup (str "md5sum") = md5.map fun m => bstr (hexLower m)) : readMd5 d = some md5 := by
  unfold readMd5
  rw [hl]
  cases md5 with
  | none => rfl
  | some m => simp [bstr, hexLower_length, hm m rfl, unhex32_hexLower]

/-- any dictionary that holds the fields of `f` reads as `f` (serde skips what it does not know) -/
theorem readFile_of {f : FileM} (h : f.Typed) {d : BDict} (hd : ∀ g ∈ fileFields f, d.lookup g.1 = g.2) :
    readFile (.dict d) = some f := by
  obtain ⟨hl, hp, hm⟩ := h
  simp only [fileFields, List.forall_mem_cons] at hd
  obtain ⟨hlen, hpath, hmd5, -⟩ := hd
  simp only [readFile, hlen, hpath, readMd5_of hm hmd5, bnat, blist, lt_u64 hl, if_true,
    strList_strs f.path fun c hc => (hp c hc).1, Option.map_some]

theorem readFile_toBVal (f : FileM) (h : f.Typed) : readFile f.toBVal = some f :=
  readFile_of h (lookup_struct (fileFields f) file_names.1)

theorem readFiles_toBVal (fs : List FileM) (h : ∀ f ∈ fs, f.Typed) :
    readFiles (BList.ofList (fs.map FileM.toBVal)) = some fs := by
  induction fs with
  | nil => rfl
  | cons f t ih =>
    obtain ⟨hf, ht⟩ := List.forall_mem_cons.mp h
    simp only [List.map_cons, BList.ofList, readFiles, readFile_toBVal f hf, ih ht]

/-- whatever decodes to a dictionary with text keys that holds the fields of `i` — and for a multi-file
torrent no `length`, which the reader tries first — is read as `i`; keys it does not know are skipped -/
theorem readInfoC_of {urlOk : Bytes → Bool} {i : InfoM} (h : i.Typed urlOk) {buf r : Bytes} {d : BDict}
    (hdec : decodeTop 2048 buf = some (.dict d, r)) (hu : keysUtf8 d = true)
    (hl : ∀ f ∈ infoFields i, d.lookup f.1 = f.2)
    (habs : ∀ fs, i.mode = .multiple fs → d.lookup (str "length") = none) : readInfoC urlOk buf = some i := by
  unfold readInfoC
  rw [hdec]
  obtain ⟨priv, pl, name, source, pieces, mode, url⟩ := i
  simp only [InfoM.Typed] at h
  obtain ⟨hpl, hname, -, hsrc, hp20, -, hmode, hurl⟩ := h
  simp only [infoFields, List.forall_mem_append, List.forall_mem_cons] at hl
  obtain ⟨⟨⟨lpriv, lpl, lname, lsrc, lpieces, -⟩, lmode⟩, lurl, -⟩ := hl
  -- text keys; the three required fields and the guard on them; the lookups of the optional fields.
  -- `-zeta` keeps the reader's `let`s, so that its four optional parts can be named and settled one at a time
  -- (splitting `priv`, `source`, `url`, `mode` on the whole goal gives 24 copies of it)
  simp -zeta only [hu, lname, lpl, lpieces, bstr, bnat, hname, lt_u64 hpl, hp20, decide_true,
    Bool.and_self, Bool.not_true, Bool.false_eq_true, if_false, lpriv, lsrc, lurl]
  extract_lets P S U M
  have hP : P = some priv := by rcases priv with _ | _ | _ <;> rfl
  have hS : S = some source := by
    rcases source with _ | s
    · rfl
    · simp only [S, Option.map_some, bstr, (hsrc s rfl).1, if_true]
  have hU : U = some url := by
    rcases url with _ | u
    · rfl
    · simp only [U, Option.map_some, bstr, (hurl u rfl).1, (hurl u rfl).2.1, Bool.and_self, if_true]
  have hM : M = some mode := by
    cases mode with
    | single n md5 =>
      simp only [modeFields, List.forall_mem_cons] at lmode
      simp only [M, lmode.1, readMd5_of hmode.2 lmode.2.1, bnat, hmode.1, if_true]
    | multiple fs =>
      simp only [modeFields, List.forall_mem_cons] at lmode
      simp only [M, habs fs rfl, lmode.1, blist, readFiles_toBVal fs hmode, Option.map_some]
  rw [hP, hS, hU, hM]

/-- a multi-file info dictionary has no `length`, the key by which the reader tells the two modes apart -/
theorem multi_has_no_length : str "length" ∉ [str "private", str "piece length", str "name", str "source", str "pieces",
    str "files", str "update-url"] := by simp only [str_eq]; decide +kernel

/-- … nor `md5sum` -/
theorem multi_has_no_md5 : str "md5sum" ∉ [str "private", str "piece length", str "name", str "source", str "pieces",
    str "files", str "update-url"] := by simp only [str_eq]; decide +kernel

theorem readInfoC_toBVal_append (urlOk : Bytes → Bool) (i : InfoM) (h : i.Typed urlOk) (r : Bytes) :
    readInfoC urlOk (encode i.toBVal ++ r) = some i :=
  readInfoC_of h ((info_fits i h.ok).decodeTop (by decide) r) (struct_keysUtf8 (infoFields i) (info_names i))
    (lookup_struct (infoFields i) (info_names i).1)
    fun fs hm => lookup_struct_absent (infoFields i) (by rw [infoFields, hm]; exact multi_has_no_length)

theorem readInfoC_toBVal (urlOk : Bytes → Bool) (i : InfoM) (h : i.Typed urlOk) :
    readInfoC urlOk (encode i.toBVal) = some i := by
  simpa using readInfoC_toBVal_append urlOk i h []

end Imdlv.Metainfo
