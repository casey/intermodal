import Imdlv.Model.Load
import Imdlv.Lemmas.Basic
/-!
# What a successful load guarantees

Inversions of the loader and of the typed readers below it: the facts later stages rely on.
-/
namespace Imdlv.Load
open Imdlv Imdlv.Bencode Imdlv.Metainfo Imdlv.Peer

theorem readInfoC_facts {urlOk : Bytes → Bool} {buf : Bytes} {i : InfoM} (h : readInfoC urlOk buf = some i) :
    i.pieces.length % 20 = 0 ∧ i.pieceLength < 2 ^ 64 ∧ (∀ n md5, i.mode = .single n md5 → n < 2 ^ 63) := by
  unfold readInfoC at h
  split at h
  · obtain ⟨_, h⟩ := else_of_ite_eq h nofun
    split at h
    · next name pl pieces _ _ _ =>
      obtain ⟨hguard, h⟩ := else_of_ite_eq h nofun
      simp only [Bool.not_eq_true', Bool.not_eq_false, Bool.and_eq_true, decide_eq_true_eq] at hguard
      dsimp only at h
      split at h
      · next priv source url mode _ _ _ hmode =>
        obtain rfl := Option.some.inj h
        refine ⟨hguard.2, hguard.1.2, fun n md5 hm => ?_⟩
        subst hm
        -- a single-file mode comes from the `length` branch, which checks the bound
        split at hmode
        · obtain ⟨hn, hmode⟩ := then_of_ite_eq hmode nofun
          cases hmode; exact hn
        · split at hmode
          · simp at hmode
          · cases hmode
      · cases h
    · cases h
  · cases h

theorem readMetainfo_info {urlOk : Bytes → Bool} {b : Bytes} {m : MetainfoM}
    (h : readMetainfo urlOk b = some (some m)) : ∃ buf, readInfoC urlOk buf = some m.info := by
  unfold readMetainfo at h
  split at h
  · obtain ⟨_, h⟩ := else_of_ite_eq h nofun
    split at h
    · split at h
      · next hinfo _ _ _ _ =>
        dsimp only at h
        split at h
        · cases h
        · obtain rfl := Option.some.inj (Option.some.inj h)
          exact ⟨_, hinfo⟩
        · cases h
      · cases h
    · cases h
  · cases h

theorem loadTorrent_ok {urlOk : Bytes → Bool} {b : Bytes} {m : MetainfoM} {span : Bytes}
    (h : loadTorrent urlOk b = .ok m span) :
    readMetainfo urlOk b = some (some m) ∧ pathsOk m.info.mode = true ∧
      (∃ s, contentSize? m.info.mode = some s) ∧ Infohash.infohashFromInput (fun s => s) 2048 b = .ok span := by
  unfold loadTorrent at h
  split at h
  · cases h
  · cases h
  · next m' hm =>
    obtain ⟨hpaths, h⟩ := else_of_ite_eq h nofun
    split at h
    · cases h
    · next s hs =>
      split at h <;> cases h
      next hih => exact ⟨hm, by simpa using hpaths, ⟨s, hs⟩, hih⟩

theorem checkedSum_lt {l : List Nat} {s : Nat} (h : checkedSum l = some s) : s < 2 ^ 64 := by
  rcases List.eq_nil_or_concat l with rfl | ⟨l', x, rfl⟩
  · cases h; decide
  · -- the last step checked the bound
    rw [checkedSum, List.concat_eq_append, List.foldl_append] at h
    obtain ⟨a, -, ha⟩ := Option.bind_eq_some_iff.mp h
    obtain ⟨hlt, e⟩ := then_of_ite_eq ha nofun
    cases e; exact hlt

end Imdlv.Load
