import Imdlv.Lemmas.BencodeComplete
import Imdlv.Lemmas.Metainfo
/-!
# A strict decoder reads back exactly the typed metainfo (C05, C07, C11)

`MetainfoM.toBVal` is well-formed in the sense of `Bencode.WF` and nests at most five deep, so by
`decode_complete` the serialised metainfo decodes — with any nesting limit ≥ 5, in particular
bendy's 2048 — to exactly that value with nothing left over.
-/
namespace Imdlv.Metainfo
open Imdlv Imdlv.Bencode

theorem wfDict_weaken : ∀ (d : BDict) (last last' : Option Bytes),
    (∀ k, keyOk last k = true → keyOk last' k = true) → WFDict last d = true → WFDict last' d = true := by
  intro d last last' hmono h
  cases d with
  | nil => rfl
  | cons k v t =>
    simp only [WFDict, Bool.and_eq_true, decide_eq_true_eq] at h ⊢
    exact ⟨⟨⟨hmono k h.1.1.1, h.1.1.2⟩, h.1.2⟩, h.2⟩

/-- what a strict decoder with nesting limit `N` reads back: the two hypotheses of `decodeTop_complete` -/
def Fits (N : Nat) (v : BVal) : Prop := WF v = true ∧ nestingOf v ≤ N

theorem Fits.decodeTop {N : Nat} {v : BVal} (h : Fits N v) {depth : Nat} (hd : N ≤ depth) (r : Bytes) :
    decodeTop depth (encode v ++ r) = some (v, r) :=
  decodeTop_complete v depth r h.1 (Nat.le_trans h.2 hd)

theorem fits_list {N : Nat} {l : List BVal} (h : ∀ v ∈ l, Fits N v) : Fits (N + 1) (blist l) := by
  suffices WFList (BList.ofList l) = true ∧ nestingOfList (BList.ofList l) ≤ N from
    ⟨this.1, Nat.succ_le_succ this.2⟩
  induction l with
  | nil => exact ⟨rfl, Nat.zero_le _⟩
  | cons v t ih =>
    obtain ⟨hv, ht⟩ := List.forall_mem_cons.mp h
    simp only [BList.ofList, WFList, nestingOfList, Bool.and_eq_true, Nat.max_le]
    exact ⟨⟨hv.1, (ih ht).1⟩, hv.2, (ih ht).2⟩

theorem wfDict_of_entries {N : Nat} : ∀ (d : BDict) (last : Option Bytes), SortedFrom last d →
    (∀ e ∈ d.toList, e.1.length < 2 ^ 64 ∧ Fits N e.2) → WFDict last d = true ∧ nestingOfDict d ≤ N
  | .nil, _, _, _ => ⟨rfl, Nat.zero_le _⟩
  | .cons k v t, last, ⟨hk, hs⟩, h => by
    obtain ⟨⟨hl, hv⟩, ht⟩ := List.forall_mem_cons.mp h
    have ih := wfDict_of_entries t _ hs ht
    simp only [WFDict, nestingOfDict, Bool.and_eq_true, decide_eq_true_eq, Nat.max_le]
    exact ⟨⟨⟨⟨hk, hl⟩, hv.1⟩, ih.1⟩, hv.2, ih.2⟩

theorem fits_dict {N : Nat} {d : BDict} (hs : SortedFrom none d)
    (h : ∀ e ∈ d.toList, e.1.length < 2 ^ 64 ∧ Fits N e.2) : Fits (N + 1) (.dict d) :=
  (wfDict_of_entries d none hs h).imp id Nat.succ_le_succ

/-- `hv` is one obligation per field: `fits_some` settles it for a required field, `fits_map` for an optional one -/
theorem struct_fits {N : Nat} (fs : List (Bytes × Option BVal)) (hk : FieldNames (fs.map (·.1)))
    (hv : ∀ f ∈ fs, ∀ v, f.2 = some v → Fits N v) : Fits (N + 1) (.dict (structDict fs)) :=
  fits_dict (structDict_sorted fs) fun e he =>
    ⟨(hk.2 e.1 (key_mem_structDict he)).1, hv _ (mem_structDict he) _ rfl⟩

theorem fits_some {N : Nat} {x : BVal} (h : Fits N x) : ∀ v, some x = some v → Fits N v := fun _ e => Option.some.inj e ▸ h

theorem fits_map {α : Type} {N : Nat} {o : Option α} {g : α → BVal} (h : ∀ a, o = some a → Fits N (g a)) :
    ∀ v, o.map g = some v → Fits N v := fun _ e => by
  obtain ⟨a, ha, rfl⟩ := Option.map_eq_some_iff.mp e
  exact h a ha

/-! ### the value bounds bendy can carry -/

def strOk (b : Bytes) : Prop := b.length < 2 ^ 64
def optOk (o : Option Bytes) : Prop := ∀ b, o = some b → strOk b

def FileM.Ok (f : FileM) : Prop :=
  f.length < 2 ^ 63 ∧ (∀ c ∈ f.path, strOk c) ∧ (∀ m, f.md5 = some m → m.length < 2 ^ 63)

def ModeM.Ok : ModeM → Prop
  | .single n md5 => n < 2 ^ 63 ∧ (∀ m, md5 = some m → m.length < 2 ^ 63)
  | .multiple fs => ∀ f ∈ fs, f.Ok

def InfoM.Ok (i : InfoM) : Prop :=
  i.pieceLength < 2 ^ 63 ∧ strOk i.name ∧ optOk i.source ∧ strOk i.pieces ∧ i.mode.Ok ∧ optOk i.updateUrl

def NodeM.Ok (n : NodeM) : Prop := strOk n.host ∧ n.port < 2 ^ 63

def MetainfoM.Ok (m : MetainfoM) : Prop :=
  optOk m.announce ∧ (∀ tiers, m.announceList = some tiers → ∀ t ∈ tiers, ∀ u ∈ t, strOk u) ∧ optOk m.comment ∧
  optOk m.createdBy ∧ (∀ d, m.creationDate = some d → d < 2 ^ 63) ∧ optOk m.encoding ∧ m.info.Ok ∧
  (∀ ns, m.nodes = some ns → ∀ n ∈ ns, n.Ok)

/-- an integer that bencode's `i64` carries passes the readers' `u64` checks -/
theorem lt_u64 {n : Nat} (h : n < 2 ^ 63) : n < 2 ^ 64 := Nat.lt_trans h (by decide)

theorem fits_bnat {N n : Nat} (h : n < 2 ^ 63) : Fits N (bnat n) :=
  ⟨by simp [bnat, WF, inI64, h], Nat.zero_le _⟩

theorem fits_bstr {N : Nat} {b : Bytes} (h : strOk b) : Fits N (bstr b) :=
  ⟨decide_eq_true h, Nat.zero_le _⟩

theorem fits_optStr {N : Nat} {o : Option Bytes} (h : optOk o) : ∀ v, o.map bstr = some v → Fits N v :=
  fits_map fun b hb => fits_bstr (h b hb)

theorem fits_strs {N : Nat} {l : List Bytes} (h : ∀ c ∈ l, strOk c) : Fits (N + 1) (blist (l.map bstr)) :=
  fits_list (List.forall_mem_map.mpr fun c hc => fits_bstr (h c hc))

theorem hexLower_length (b : Bytes) : (hexLower b).length = 2 * b.length := by
  induction b with
  | nil => rfl
  | cons _ t ih => exact congrArg (· + 2) ih

theorem fits_md5 {N : Nat} {md5 : Option Bytes} (h : ∀ m, md5 = some m → m.length < 2 ^ 63) :
    ∀ v, (md5.map fun m => bstr (hexLower m)) = some v → Fits N v :=
  fits_map fun m hm => fits_bstr (by have := h m hm; simp only [strOk, hexLower_length]; omega)

/-! ### the field lists of the three `toBVal`s, which makes each a `structDict` -/

def fileFields (f : FileM) : List (Bytes × Option BVal) :=
  [(str "length", some (bnat f.length)), (str "path", some (blist (f.path.map bstr))),
   (str "md5sum", f.md5.map fun m => bstr (hexLower m))]

def infoFields (i : InfoM) : List (Bytes × Option BVal) :=
  [(str "private", i.priv.map fun b => bnat (if b then 1 else 0)),
   (str "piece length", some (bnat i.pieceLength)),
   (str "name", some (bstr i.name)),
   (str "source", i.source.map bstr),
   (str "pieces", some (bstr i.pieces))] ++ modeFields i.mode ++ [(str "update-url", i.updateUrl.map bstr)]

def topFields (m : MetainfoM) : List (Bytes × Option BVal) :=
  [(str "announce", m.announce.map bstr),
   (str "announce-list", m.announceList.map fun tiers => blist (tiers.map fun t => blist (t.map bstr))),
   (str "comment", m.comment.map bstr),
   (str "created by", m.createdBy.map bstr),
   (str "creation date", m.creationDate.map bnat),
   (str "encoding", m.encoding.map bstr),
   (str "info", some m.info.toBVal),
   (str "nodes", m.nodes.map fun ns => blist (ns.map NodeM.toBVal))]

theorem InfoM.toBVal_eq (i : InfoM) : i.toBVal = .dict (structDict (infoFields i)) := rfl
theorem MetainfoM.toBVal_eq (m : MetainfoM) : m.toBVal = .dict (structDict (topFields m)) := rfl

theorem file_names : FieldNames [str "length", str "path", str "md5sum"] := by simp only [str_eq]; decide +kernel

theorem info_names_single : FieldNames [str "private", str "piece length", str "name", str "source", str "pieces",
    str "length", str "md5sum", str "update-url"] := by simp only [str_eq]; decide +kernel

theorem info_names_multi : FieldNames [str "private", str "piece length", str "name", str "source", str "pieces",
    str "files", str "update-url"] := by simp only [str_eq]; decide +kernel

theorem top_names : FieldNames [str "announce", str "announce-list", str "comment", str "created by",
    str "creation date", str "encoding", str "info", str "nodes"] := by simp only [str_eq]; decide +kernel

theorem info_names (i : InfoM) : FieldNames ((infoFields i).map (·.1)) := by
  obtain ⟨_, _, _, _, _, mode, _⟩ := i
  cases mode
  · exact info_names_single
  · exact info_names_multi

theorem file_fits {N : Nat} (f : FileM) (h : f.Ok) : Fits (N + 2) f.toBVal := by
  obtain ⟨hl, hp, hm⟩ := h
  refine struct_fits (fileFields f) file_names ?_
  simp only [fileFields, List.forall_mem_cons]
  exact ⟨fits_some (fits_bnat hl), fits_some (fits_strs hp), fits_md5 hm, nofun⟩

theorem mode_fields_fit {N : Nat} {mode : ModeM} (h : mode.Ok) :
    ∀ f ∈ modeFields mode, ∀ v, f.2 = some v → Fits (N + 3) v := by
  cases mode with
  | single n md5 =>
    simp only [modeFields, List.forall_mem_cons]
    exact ⟨fits_some (fits_bnat h.1), fits_md5 h.2, nofun⟩
  | multiple fs =>
    simp only [modeFields, List.forall_mem_cons]
    exact ⟨fits_some (fits_list (List.forall_mem_map.mpr fun f hf => file_fits f (h f hf))), nofun⟩

theorem info_fits (i : InfoM) (h : i.Ok) : Fits 4 i.toBVal := by
  obtain ⟨hpl, hname, hsrc, hpieces, hmode, hurl⟩ := h
  refine struct_fits (infoFields i) (info_names i) ?_
  simp only [infoFields, List.forall_mem_append, List.forall_mem_cons]
  exact ⟨⟨⟨fits_map fun b _ => fits_bnat (by cases b <;> decide), fits_some (fits_bnat hpl), fits_some (fits_bstr hname),
    fits_optStr hsrc, fits_some (fits_bstr hpieces), nofun⟩, mode_fields_fit hmode⟩, fits_optStr hurl, nofun⟩

theorem node_fits {N : Nat} (n : NodeM) (h : n.Ok) : Fits (N + 1) n.toBVal :=
  fits_list (by simp only [List.forall_mem_cons]; exact ⟨fits_bstr h.1, fits_bnat h.2, nofun⟩)

theorem metainfo_fits (m : MetainfoM) (h : m.Ok) : Fits 5 m.toBVal := by
  obtain ⟨hann, htiers, hcom, hcb, hcd, henc, hinfo, hnodes⟩ := h
  refine struct_fits (topFields m) top_names ?_
  simp only [topFields, List.forall_mem_cons]
  exact ⟨fits_optStr hann,
    fits_map fun ts hts => fits_list (List.forall_mem_map.mpr fun t ht => fits_strs (htiers ts hts t ht)),
    fits_optStr hcom, fits_optStr hcb, fits_map fun d hd => fits_bnat (hcd d hd), fits_optStr henc,
    fits_some (info_fits m.info hinfo),
    fits_map fun ns hns => fits_list (List.forall_mem_map.mpr fun n hn => node_fits n (hnodes ns hns n hn)), nofun⟩

theorem serialize_reads_back (m : MetainfoM) (h : m.Ok) (depth : Nat) (hd : 5 ≤ depth) (r : Bytes) :
    decodeTop depth (m.serialize ++ r) = some (m.toBVal, r) :=
  (metainfo_fits m h).decodeTop hd r

end Imdlv.Metainfo
