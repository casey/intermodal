import Imdlv.Model.HostPort
import Imdlv.Lemmas.Basic
/-!
# `HOST:PORT` text, whatever the host language (C17)

`parse` splits at the last colon and reads a decimal port behind it: `parse_snoc` is its equation on
`hs ++ ':' :: ds` with `ds` free of colons, `parse_ok` its inversion.
-/
namespace Imdlv.HostPort

theorem digit_table : ∀ k, k < 10 →
    isDigitCh (Char.ofNat (48 + k)) = true ∧ (Char.ofNat (48 + k)).toNat - 48 = k := by decide

theorem natChars_eq : natChars = digitsOf fun k => Char.ofNat (48 + k) := by
  funext n; induction n using natChars.induct <;> rw [natChars, digitsOf] <;> simp [*]

theorem natChars_ne_nil (n : Nat) : natChars n ≠ [] := natChars_eq ▸ digitsOf_ne_nil n

theorem natChars_digits (n : Nat) : (natChars n).all isDigitCh = true ∧ digitsVal (natChars n) = n := by
  rw [natChars_eq, digitsVal, List.all_eq_true]
  exact ⟨forall_mem_digitsOf (fun k hk => (digit_table k hk).1) n, foldl_digitsOf (fun k hk => (digit_table k hk).2) n⟩

theorem splitLastColon_none : ∀ (s : List Char), s.contains ':' = false → splitLastColon s = none
  | [], _ => rfl
  | c :: t, h => by
    have ⟨hc, ht⟩ := contains_cons_eq_false.mp h
    simp [splitLastColon, splitLastColon_none t ht, hc]

theorem splitLastColon_snoc (h ds : List Char) (hd : ds.contains ':' = false) :
    splitLastColon (h ++ ':' :: ds) = some (h, ds) := by
  induction h with
  | nil => simp [splitLastColon, splitLastColon_none ds hd]
  | cons c t ih => simp [splitLastColon, ih]

theorem parse_snoc (hostParse : List Char → Option Host) (hs ds : List Char) (hd : ds.contains ':' = false) :
    parse hostParse (hs ++ ':' :: ds) =
      if ds.isEmpty || !ds.all isDigitCh || hs.contains '\n' then .error .portMissing
      else match hostParse hs with
        | none => .error .host
        | some host => if digitsVal ds < 65536 then .ok (host, digitsVal ds) else .error .port := by
  unfold parse
  rw [splitLastColon_snoc hs ds hd]
  rfl

theorem parse_ok {hostParse : List Char → Option Host} {s : List Char} {h : Host} {p : Nat}
    (hok : parse hostParse s = .ok (h, p)) : (∃ hs, hostParse hs = some h) ∧ p < 65536 := by
  unfold parse at hok
  match hs : splitLastColon s, hok with
  | some (a, b), hok =>
    obtain ⟨_, hok⟩ := else_of_ite_eq hok nofun
    match hh : hostParse a, hok with
    | some host, hok =>
      obtain ⟨hp, hok⟩ := then_of_ite_eq hok nofun
      cases hok
      exact ⟨⟨_, hh⟩, hp⟩

theorem splitOnCh_eq : splitOnCh = splitBy := by
  funext sep s; unfold splitOnCh splitBy; congr; funext c acc; split
  · rfl
  · cases acc <;> rfl

end Imdlv.HostPort
