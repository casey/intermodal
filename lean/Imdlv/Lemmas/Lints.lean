import Imdlv.Model.Lints
namespace Imdlv.Lints

theorem isPow2_iff (n : Nat) : isPow2 n = true ↔ ∃ k, n = 2 ^ k := by
  simp only [isPow2, Bool.and_eq_true, bne_iff_ne, ne_eq, beq_iff_eq]
  constructor
  · exact fun h => ⟨_, h.2.symm⟩
  · rintro ⟨k, rfl⟩
    exact ⟨Nat.ne_of_gt (Nat.two_pow_pos k), by rw [Nat.log2_two_pow]⟩

def Acceptable (allow : Lint → Bool) (p : Nat) (priv ann : Bool) : Prop :=
  p ≠ 0 ∧ p < 2 ^ 32 ∧ ∀ l, violated p priv ann l = true → allow l = true

/-- what an outcome of `createDecision` certifies about the request -/
def Justified (allow : Lint → Bool) (p : Nat) (priv ann : Bool) : Except Err Nat → Prop
  | .ok q => q = p ∧ Acceptable allow p priv ann
  | .error e =>
    match lintOf e with
    | some l => violated p priv ann l = true ∧ allow l = false
    | none => p = 0 ∨ p ≥ 2 ^ 32

/-- The five checks walked once, in order: an early exit is justified by its own guard, the
final `ok` by all five guards having failed. (`split` is slow on this chain; `iteInduction` is not.) -/
theorem createDecision_justified (allow : Lint → Bool) (p : Nat) (priv ann : Bool) :
    Justified allow p priv ann (createDecision allow p priv ann) := by
  -- the guards as propositions: `(allow pT = false ∧ priv = true) ∧ ann = false`, `p = 0`,
  -- `allow uneven = false ∧ isPow2 p = false`, `allow small = false ∧ p < threshold`, `p ≥ 2 ^ 32`
  simp only [createDecision, Bool.and_eq_true, Bool.not_eq_true', beq_iff_eq, decide_eq_true_eq]
  -- `zero` and `tooLarge` name no lint: what justifies them is a disjunction, and the guard is one side of it
  refine iteInduction (fun g => ?priv) fun g1 => iteInduction .inl fun hz => iteInduction (fun g => ?uneven) fun g3 =>
    iteInduction (fun g => ?small) fun g4 => iteInduction .inr fun hb => ?ok
  case priv =>
    simpa only [Justified, lintOf, violated, Bool.and_eq_true, Bool.not_eq_true'] using ⟨⟨g.1.2, g.2⟩, g.1.1⟩
  case uneven =>
    simpa only [Justified, lintOf, violated, Bool.and_eq_true, Bool.not_eq_true', bne_iff_ne] using ⟨⟨hz, g.2⟩, g.1⟩
  case small => simpa only [Justified, lintOf, violated, decide_eq_true_eq] using ⟨g.2, g.1⟩
  case ok =>
    refine ⟨rfl, hz, Nat.not_le.mp hb, fun l hv => Bool.of_not_eq_false fun hd => ?_⟩
    cases l <;>
      simp only [violated, Bool.and_eq_true, Bool.not_eq_true', bne_iff_ne, decide_eq_true_eq] at hv
    · exact g1 ⟨⟨hd, hv.1⟩, hv.2⟩
    · exact g4 ⟨hd, hv⟩
    · exact g3 ⟨hd, hv.2⟩

section
variable {allow : Lint → Bool} {p : Nat} {priv ann : Bool}

/-- Conversely the request decides the outcome. -/
theorem outcome_of_justified {r : Except Err Nat} (hj : Justified allow p priv ann r) :
    (Acceptable allow p priv ann → r = .ok p) ∧ (¬ Acceptable allow p priv ann → ∃ e, r = .error e) := by
  match r, hj with
  | .ok q, hj => exact ⟨fun _ => by rw [hj.1], fun h => absurd hj.2 h⟩
  | .error e, hj =>
    refine ⟨fun ⟨hz, hb, hall⟩ => ?_, fun _ => ⟨e, rfl⟩⟩
    simp only [Justified] at hj
    split at hj
    · exact absurd (hj.2 ▸ hall _ hj.1) Bool.false_ne_true
    · omega

theorem createDecision_ok (h : Acceptable allow p priv ann) : createDecision allow p priv ann = .ok p :=
  (outcome_of_justified (createDecision_justified allow p priv ann)).1 h

theorem createDecision_error (h : ¬ Acceptable allow p priv ann) :
    ∃ e, createDecision allow p priv ann = .error e :=
  (outcome_of_justified (createDecision_justified allow p priv ann)).2 h

end

/-- Galois characterisation of the ceiling logarithm -/
theorem clog2_le_iff (n k : Nat) : clog2 n ≤ k ↔ n ≤ 2 ^ k := by
  unfold clog2
  by_cases h : n ≤ 1
  · rw [if_pos h]; exact iff_of_true (Nat.zero_le k) (Nat.le_trans h (Nat.two_pow_pos k))
  · rw [if_neg h, Nat.add_one_le_iff, Nat.log2_lt (Nat.sub_ne_zero_of_lt (Nat.not_le.mp h))]; omega

theorem le_two_pow_clog2 (n : Nat) : n ≤ 2 ^ clog2 n := (clog2_le_iff n _).mp (Nat.le_refl _)

theorem clog2_mono {m n : Nat} (h : m ≤ n) : clog2 m ≤ clog2 n :=
  (clog2_le_iff m _).mpr (Nat.le_trans h (le_two_pow_clog2 n))

theorem clog2_two_pow (k : Nat) : clog2 (2 ^ k) = k :=
  Nat.le_antisymm ((clog2_le_iff _ _).mpr (Nat.le_refl _))
    ((Nat.pow_le_pow_iff_right (by omega)).mp (le_two_pow_clog2 _))

theorem clog2_ge_of_gt (n k : Nat) (h : 2 ^ k < n) : k + 1 ≤ clog2 n :=
  Nat.lt_of_not_le fun hle => Nat.not_le.mpr h ((clog2_le_iff n k).mp hle)

theorem max_le_max_right {x y : Nat} (a : Nat) (h : x ≤ y) : max x a ≤ max y a :=
  Nat.max_le.mpr ⟨Nat.le_trans h (Nat.le_max_left y a), Nat.le_max_right y a⟩

theorem clamp_mono {x y a b : Nat} (h : x ≤ y) : min (max x a) b ≤ min (max y a) b :=
  Nat.le_min.mpr ⟨Nat.le_trans (Nat.min_le_left _ b) (max_le_max_right a h), Nat.min_le_right _ b⟩

theorem clamp_two_pow (x a b : Nat) : min (max (2 ^ x) (2 ^ a)) (2 ^ b) = 2 ^ min (max x a) b := by
  have hle {i j : Nat} : 2 ^ i ≤ 2 ^ j ↔ i ≤ j := Nat.pow_le_pow_iff_right (Nat.lt_add_one 1)
  have hmax : 2 ^ max x a = max (2 ^ x) (2 ^ a) := by simp only [Nat.max_def, hle, apply_ite (2 ^ ·)]
  rw [← hmax]; simp only [Nat.min_def, hle, apply_ite (2 ^ ·)]

/-- `pickWith` with the values of `Consts` put in -/
theorem pickWith_eq (e : Nat → Nat) (n : Nat) :
    pickWith e n = min (max (2 ^ (e (max n 1) / 2 + 4)) (2 ^ 14)) (2 ^ 24) := rfl

theorem pickWith_eq_pow (e : Nat → Nat) (n : Nat) :
    pickWith e n = 2 ^ min (max (e (max n 1) / 2 + 4) 14) 24 :=
  (pickWith_eq e n).trans (clamp_two_pow _ 14 24)

/-- `he` is what the code's `f64` exponent has to satisfy -/
theorem pickWith_mono (e : Nat → Nat) (he : ∀ a b, a ≤ b → e a ≤ e b) {m n : Nat} (h : m ≤ n) :
    pickWith e m ≤ pickWith e n :=
  clamp_mono <| Nat.pow_le_pow_right Nat.zero_lt_two <|
    Nat.add_le_add_right (Nat.div_le_div_right (he _ _ (max_le_max_right 1 h))) _

theorem pickWith_high (e : Nat → Nat) (n : Nat) (h : 40 ≤ e (max n 1)) : pickWith e n = 2 ^ 24 := by
  have : 24 ≤ e (max n 1) / 2 + 4 := by omega
  rw [pickWith_eq_pow, Nat.max_eq_left (Nat.le_trans (by decide) this), Nat.min_eq_right this]

end Imdlv.Lints
