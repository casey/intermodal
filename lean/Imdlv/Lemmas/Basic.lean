import Imdlv.Model.Basic
/-!
# Facts that several models share

The models repeat a few small functions under several names: split at a separator, join with one, print
in decimal. Each is stated here once for any type, with its lemmas; each copy is proved equal to the
general function (`splitOn_eq`, `joinAmp_eq`, `natDigits_eq`, …). Before them stand the lemmas that peel a guard
off an `if`; after them `utf8_toList` (for evaluating string literals), a few facts about lists and bytes, and the
lemmas about `Model/Basic`'s `chunks`.
-/
namespace Imdlv

/-! ### peeling a guard -/

theorem ite_eq_cases {α : Type} {c : Prop} [Decidable c] {r x y : α} (h : (if c then r else x) = y) :
    c ∧ r = y ∨ ¬ c ∧ x = y := by
  by_cases hc : c
  · rw [if_pos hc] at h; exact .inl ⟨hc, h⟩
  · rw [if_neg hc] at h; exact .inr ⟨hc, h⟩

/-- the branch that cannot give the result was not taken -/
theorem else_of_ite_eq {α : Type} {c : Prop} [Decidable c] {r x y : α}
    (h : (if c then r else x) = y) (hr : r ≠ y) : ¬ c ∧ x = y :=
  (ite_eq_cases h).resolve_left fun ⟨_, e⟩ => hr e

theorem then_of_ite_eq {α : Type} {c : Prop} [Decidable c] {r x y : α}
    (h : (if c then x else r) = y) (hr : r ≠ y) : c ∧ x = y :=
  (ite_eq_cases h).resolve_right fun ⟨_, e⟩ => hr e

theorem ite_eq_iff_of_ne {α : Type} {c : Prop} [Decidable c] {r x y : α} (hr : r ≠ y) :
    (if c then r else x) = y ↔ ¬ c ∧ x = y :=
  ⟨fun h => else_of_ite_eq h hr, fun ⟨hc, h⟩ => by rw [if_neg hc]; exact h⟩

/-! ### splitting at a separator

The models split text at a separator in five places: `Magnet.splitOn`, `Summary.splitOn`,
`Verifier.splitSlash`, `HostPort.splitOnCh` (the same right fold) and `Paths.splitSlash` (the same
function by recursion). `splitBy` is that function for any type. -/

def splitBy {α : Type} [DecidableEq α] (sep : α) (s : List α) : List (List α) :=
  s.foldr (fun b acc => if b = sep then [] :: acc else match acc with
    | [] => [[b]]
    | h :: t => (b :: h) :: t) [[]]

section
variable {α : Type} [DecidableEq α] {sep : α}

theorem splitBy_cons (c : α) (t : List α) : splitBy sep (c :: t) =
    if c = sep then [] :: splitBy sep t else
      match splitBy sep t with
      | [] => [[c]]
      | h :: t' => (c :: h) :: t' := rfl

theorem contains_cons_eq_false {c : α} {t : List α} :
    (c :: t).contains sep = false ↔ c ≠ sep ∧ t.contains sep = false := by
  simp only [List.contains_cons, Bool.or_eq_false_iff, beq_eq_false_iff_ne, ne_comm]

theorem contains_false_of_ne {a : List α} (h : ∀ x ∈ a, x ≠ sep) : a.contains sep = false :=
  Bool.eq_false_iff.mpr fun hc => h sep (List.contains_iff_mem.mp hc) rfl

theorem contains_false_of_all {p : α → Bool} {l : List α} (hall : l.all p = true) {c : α} (hc : p c = false) :
    l.contains c = false :=
  contains_false_of_ne fun x hx e => by rw [← e, List.all_eq_true.mp hall x hx] at hc; cases hc

theorem head?_ne_sep {t : List α} (h : t.contains sep = false) : t.head? ≠ some sep := by
  cases t with
  | nil => nofun
  | cons x t => exact fun e => (contains_cons_eq_false.mp h).1 (Option.some.inj e)

theorem getLast?_append_ne {acc t : List α} (ht : t ≠ []) (h : t.contains sep = false) :
    (acc ++ t).getLast? ≠ some sep := by
  rw [List.getLast?_append]
  cases hl : t.getLast? with
  | none => exact absurd (List.getLast?_eq_none_iff.mp hl) ht
  | some x =>
    intro e
    have := List.contains_iff_mem.mpr (List.mem_of_getLast? hl)
    rw [Option.some.inj e, h] at this; cases this

theorem splitBy_no_sep : ∀ {a : List α}, a.contains sep = false → splitBy sep a = [a]
  | [], _ => rfl
  | c :: t, h => by
    have ⟨hc, ht⟩ := contains_cons_eq_false.mp h
    rw [splitBy_cons, if_neg hc, splitBy_no_sep ht]

theorem splitBy_append : ∀ {a : List α} (rest : List α), a.contains sep = false →
    splitBy sep (a ++ sep :: rest) = a :: splitBy sep rest
  | [], rest, _ => by rw [List.nil_append, splitBy_cons, if_pos rfl]
  | c :: t, rest, h => by
    have ⟨hc, ht⟩ := contains_cons_eq_false.mp h
    rw [List.cons_append, splitBy_cons, if_neg hc, splitBy_append rest ht]

theorem splitBy_pieces : ∀ (s : List α), ∀ p ∈ splitBy sep s, p.contains sep = false
  | [], p, hp => by rw [List.mem_singleton.mp hp]; rfl
  | c :: t, p, hp => by
    have ih := splitBy_pieces t
    rw [splitBy_cons] at hp
    split at hp
    · rcases List.mem_cons.mp hp with rfl | hp
      · rfl
      · exact ih p hp
    · next hc =>
      split at hp
      · rw [List.mem_singleton.mp hp]; exact contains_cons_eq_false.mpr ⟨hc, rfl⟩
      · next h t' e =>
        rcases List.mem_cons.mp hp with rfl | hp
        · exact contains_cons_eq_false.mpr ⟨hc, ih h (e ▸ List.mem_cons_self ..)⟩
        · exact ih p (e ▸ List.mem_cons_of_mem _ hp)
end

/-! ### joining with a separator

Theorems speak of four of the models' joins (`Magnet.joinAmp`, `Magnet.commaJoin`, `Summary.joinTab`,
`HostPort.joinColon`): the same function at `&`, `,`, tab and `:`. -/

def joinBy {α : Type} (sep : α) : List (List α) → List α
  | [] => []
  | [x] => x
  | x :: t => x ++ [sep] ++ joinBy sep t

section
variable {α : Type} {sep : α}

theorem joinBy_cons_cons (s s2 : List α) (t : List (List α)) :
    joinBy sep (s :: s2 :: t) = s ++ sep :: joinBy sep (s2 :: t) := List.append_assoc ..

theorem joinBy_forall {P : α → Prop} (hsep : P sep) :
    ∀ {l : List (List α)}, (∀ s ∈ l, ∀ x ∈ s, P x) → ∀ x ∈ joinBy sep l, P x
  | [], _ => nofun
  | [s], h => h s List.mem_cons_self
  | s :: s2 :: t, h => by
    obtain ⟨hs, ht⟩ := List.forall_mem_cons.mp h
    rw [joinBy_cons_cons]
    exact List.forall_mem_append.mpr ⟨hs, List.forall_mem_cons.mpr ⟨hsep, joinBy_forall hsep ht⟩⟩

theorem joinBy_cons (a : List α) : ∀ ss : List (List α), joinBy sep (a :: ss) = a ++ ss.flatMap (sep :: ·)
  | [] => (List.append_nil a).symm
  | s :: ss => by rw [joinBy_cons_cons, joinBy_cons s ss, List.flatMap_cons, List.cons_append]

theorem splitBy_join [DecidableEq α] (a : List α) (ss : List (List α))
    (ha : a.contains sep = false) (h : ∀ s ∈ ss, s.contains sep = false) :
    splitBy sep (a ++ ss.flatMap (sep :: ·)) = a :: ss := by
  induction ss generalizing a with
  | nil => rw [List.flatMap_nil, List.append_nil, splitBy_no_sep ha]
  | cons s ss ih =>
    have ⟨hs, hss⟩ := List.forall_mem_cons.mp h
    rw [List.flatMap_cons, List.cons_append, splitBy_append _ ha, ih s hs hss]

theorem splitBy_terminated {β : Type} [DecidableEq α] (f : β → List α) (rows : List β)
    (h : ∀ r ∈ rows, (f r).contains sep = false) :
    splitBy sep (rows.map fun r => f r ++ [sep]).flatten = rows.map f ++ [[]] := by
  induction rows with
  | nil => rfl
  | cons r t ih =>
    obtain ⟨hr, ht⟩ := List.forall_mem_cons.mp h
    rw [List.map_cons, List.flatten_cons, List.append_assoc, List.singleton_append, splitBy_append _ hr, ih ht,
      List.map_cons, List.cons_append]

theorem splitBy_joinBy [DecidableEq α] : ∀ {l : List (List α)}, l ≠ [] → (∀ s ∈ l, s.contains sep = false) →
    splitBy sep (joinBy sep l) = l
  | [], h, _ => absurd rfl h
  | a :: ss, _, h => by
    obtain ⟨ha, hss⟩ := List.forall_mem_cons.mp h
    rw [joinBy_cons, splitBy_join a ss ha hss]

end

/-! ### decimal digits

Decimal printing occurs four times (`Bencode.natDigits`, `Magnet.natDigits`, `HostPort.natChars` in the models,
`natChars'` in Lemmas/ByteSize): the same recursion over different digit symbols `dig 0 … dig 9`. -/

def digitsOf {α : Type} (dig : Nat → α) (n : Nat) : List α :=
  if n < 10 then [dig n] else digitsOf dig (n / 10) ++ [dig (n % 10)]
termination_by n
decreasing_by omega

section
variable {α : Type} {dig : Nat → α}

theorem digitsOf_ne_nil (n : Nat) : digitsOf dig n ≠ [] := by
  rw [digitsOf]; split <;> simp

theorem forall_mem_digitsOf {P : α → Prop} (h : ∀ k < 10, P (dig k)) (n : Nat) : ∀ x ∈ digitsOf dig n, P x := by
  induction n using digitsOf.induct with
  | case1 n hn => rw [digitsOf, if_pos hn]; exact List.forall_mem_singleton.mpr (h n hn)
  | case2 n hn ih =>
    rw [digitsOf, if_neg hn]
    exact List.forall_mem_append.mpr ⟨ih, List.forall_mem_singleton.mpr (h _ (Nat.mod_lt _ (by decide)))⟩

theorem foldl_digitsOf {val : α → Nat} (h : ∀ k < 10, val (dig k) = k) (n : Nat) :
    (digitsOf dig n).foldl (fun a d => 10 * a + val d) 0 = n := by
  induction n using digitsOf.induct with
  | case1 n hn => rw [digitsOf, if_pos hn]; exact (Nat.zero_add _).trans (h n hn)
  | case2 n hn ih =>
    rw [digitsOf, if_neg hn, List.foldl_append, ih, List.foldl_cons, List.foldl_nil, h _ (Nat.mod_lt _ (by decide)),
      Nat.div_add_mod]

theorem length_digitsOf_le (d n : Nat) (h : n < 10 ^ (d + 1)) : (digitsOf dig n).length ≤ d + 1 := by
  induction d generalizing n with
  | zero => rw [digitsOf, if_pos h]; exact Nat.le_refl 1
  | succ d ih =>
    rw [digitsOf]
    by_cases hn : n < 10
    · rw [if_pos hn]; exact Nat.le_add_left 1 _
    · rw [if_neg hn, List.length_append]
      exact Nat.succ_le_succ (ih (n / 10) (Nat.div_lt_of_lt_mul (Nat.mul_comm .. ▸ h)))
end

theorem toList_loop (a : Array UInt8) : ∀ (n i : Nat) (r : List UInt8), i + n = a.size →
    ByteArray.toList.loop ⟨a⟩ i r = r.reverse ++ a.toList.drop i
  | 0, i, r, h => by
    have hi : ¬ i < (ByteArray.mk a).size := fun hi : i < a.size => by omega
    rw [ByteArray.toList.loop, if_neg hi, List.drop_of_length_le (by simp; omega), List.append_nil]
  | n + 1, i, r, h => by
    have hi : i < a.size := by omega
    rw [ByteArray.toList.loop, if_pos (show i < (ByteArray.mk a).size from hi), toList_loop a n (i + 1) _ (by omega),
      List.drop_eq_getElem_cons (i := i) (by simpa using hi), List.reverse_cons, List.append_assoc, ByteArray.get!,
      getElem!_pos a i hi]
    rfl

/-- `ByteArray.toList` is defined by well-founded recursion, which `decide` and `rfl` do not unfold and the kernel
unfolds slowly; the right-hand side evaluates structurally. Rewrite with this before evaluating a test vector. -/
theorem utf8_toList (s : String) : s.toUTF8.toList = s.toUTF8.data.toList :=
  toList_loop _ _ 0 [] (Nat.zero_add _)

/-- With `List.take_left'` and the field widths this computes every slice of an append of fields. -/
theorem drop_append_of_length_le {α : Type} {a : List α} {n : Nat} (h : a.length ≤ n) (b : List α) :
    (a ++ b).drop n = b.drop (n - a.length) := by
  rw [List.drop_append, List.drop_of_length_le h, List.nil_append]

theorem byte_recompose (c : UInt8) : UInt8.ofNat (16 * (c.toNat / 16) + c.toNat % 16) = c := by
  rw [Nat.div_add_mod, UInt8.ofNat_toNat]

theorem mem_foldl {α β : Type} {f : List β → α → List β} {P : α → β → Prop}
    (hf : ∀ s a y, y ∈ f s a ↔ y ∈ s ∨ P a y) (y : β) :
    ∀ (l : List α) (s : List β), y ∈ l.foldl f s ↔ y ∈ s ∨ ∃ a ∈ l, P a y
  | [], s => by simp
  | a :: l, s => by simp [mem_foldl hf y l, hf, or_assoc]

theorem takeWhile_dropWhile_append {α} (p : α → Bool) (l r : List α) (hl : l.all p = true)
    (hr : ∀ x ∈ r.head?, p x = false) : (l ++ r).takeWhile p = l ∧ (l ++ r).dropWhile p = r := by
  rw [List.takeWhile_append_of_pos (List.all_eq_true.mp hl), List.dropWhile_append_of_pos (List.all_eq_true.mp hl)]
  cases r with
  | nil => simp
  | cons x t => simp [hr x rfl]

theorem chunks_nil (n : Nat) : chunks n [] = [] := by
  unfold chunks; simp

theorem chunks_zero (l : Bytes) : chunks 0 l = [] := by
  unfold chunks; simp

theorem chunks_cons_of_ne (n : Nat) (hn : n ≠ 0) (l : Bytes) (hl : l ≠ []) :
    chunks n l = l.take n :: chunks n (l.drop n) := by
  rw [chunks]; simp [hn, hl]

theorem chunks_flatten (n : Nat) (hn : 0 < n) (l : Bytes) : (chunks n l).flatten = l := by
  induction l using chunks.induct n with
  | case1 l h => rw [h.resolve_left (by omega), chunks_nil]; rfl
  | case2 l h ih =>
    rw [chunks_cons_of_ne n (by omega) l fun e => h (.inr e), List.flatten_cons, ih, List.take_append_drop]

theorem chunks_short (p : Nat) (o : Bytes) (ho : o.length ≤ p) (hne : o ≠ []) : chunks p o = [o] := by
  have hp : p ≠ 0 := fun e => hne (List.eq_nil_of_length_eq_zero (by omega))
  rw [chunks_cons_of_ne p hp o hne, List.take_of_length_le ho, List.drop_of_length_le ho, chunks_nil]

theorem chunks_flatten_append (p : Nat) (hp : 0 < p) (ps : List Bytes) (o : Bytes)
    (hfull : ∀ b ∈ ps, b.length = p) : chunks p (ps.flatten ++ o) = ps ++ chunks p o := by
  induction ps with
  | nil => rfl
  | cons b t ih =>
    have hb : b.length = p := hfull b (List.mem_cons_self ..)
    rw [List.flatten_cons, List.append_assoc,
      chunks_cons_of_ne p (by omega) _
        (List.append_ne_nil_of_left_ne_nil (List.ne_nil_of_length_pos (by omega)) _),
      List.take_left' hb, List.drop_left' hb, ih fun x hx => hfull x (List.mem_cons_of_mem _ hx)]
    rfl

theorem chunks_flatten_uniform (p : Nat) (hp : 0 < p) (ps : List Bytes)
    (hfull : ∀ b ∈ ps, b.length = p) : chunks p ps.flatten = ps := by
  simpa [chunks_nil] using chunks_flatten_append p hp ps [] hfull

theorem chunks_lengths (p : Nat) (hp : 0 < p) (l : Bytes) :
    (chunks p l).map List.length =
      List.replicate (l.length / p) p ++ (if l.length % p = 0 then [] else [l.length % p]) := by
  induction l using chunks.induct p with
  | case1 l h => rw [h.resolve_left (by omega), chunks_nil]; simp
  | case2 l h ih =>
    have hlen : l.length ≠ 0 := fun e => h (.inr (List.eq_nil_of_length_eq_zero e))
    -- `/` and `%` recurse by subtracting `p`, as `chunks` does by dropping `p` bytes
    rw [chunks_cons_of_ne p (by omega) l fun e => h (.inr e), List.map_cons, ih, List.length_take,
      List.length_drop, Nat.div_eq l.length p, Nat.mod_eq l.length p]
    by_cases hge : p ≤ l.length
    · simp [hp, hge, List.replicate_succ, Nat.min_eq_left hge]
    · have hlt : l.length < p := by omega
      simp [hge, hlen, Nat.min_eq_right (Nat.le_of_lt hlt), Nat.sub_eq_zero_of_le (Nat.le_of_lt hlt)]

end Imdlv
