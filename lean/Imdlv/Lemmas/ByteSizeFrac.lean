import Imdlv.Lemmas.ByteSize
/-!
# `parseBytes` on a numeral followed by a unit (C16)

`"<numeral><unit>"`, the numeral read as `N / 10^d`, denotes `N / 10^d` units. The code parses the
numeral to `f64` (correctly rounded), multiplies by the unit and casts to `u64`. `parseBytes_eq`
shows that the result is exactly `⌊N · unit / 10^d⌋` whenever `N · unit < 2^53`: every unit of the
table is a power of two, so this is `rn53_trunc`.
-/
namespace Imdlv.ByteSize

theorem table_all_pow2 : Consts.suffixTable.all (fun e => isPow2 e.2) = true := by decide +kernel

theorem all_isNumCh {l : List Char} (h : l.all isDigitCh = true) : l.all isNumCh = true := by
  rw [List.all_eq_true] at h ⊢
  intro c hc; simp [isNumCh, h c hc]

theorem parseDecimal_digits {ds : List Char} (hd : ds.all isDigitCh = true) (hne : ds ≠ []) :
    parseDecimal ds = some (digitsVal ds, 0) := by
  have h := takeWhile_dropWhile_append isDigitCh ds [] hd (by simp)
  rw [List.append_nil] at h
  simp [parseDecimal, h.1, h.2, hne]

theorem parseDecimal_frac (ip fp : List Char) (hip : ip.all isDigitCh = true) (hfp : fp.all isDigitCh = true)
    (hne : ¬ (ip = [] ∧ fp = [])) :
    parseDecimal (ip ++ '.' :: fp) = some (digitsVal (ip ++ fp), fp.length) := by
  obtain ⟨h1, h2⟩ := takeWhile_dropWhile_append isDigitCh ip ('.' :: fp) hip (by simp [isDigitCh_dot])
  simpa [parseDecimal, h1, h2, hfp] using hne

theorem parseBytes_eq (num u : List Char) (N d mult : Nat)
    (hnum : num.all isNumCh = true) (hu : ∀ c ∈ u, isNumCh c = false)
    (hp : parseDecimal num = some (N, d))
    (hl : lookupSuffix (u.map lowerAscii) Consts.suffixTable = some mult)
    (hfit : N * mult < 2 ^ 53) :
    parseBytes (num ++ u) = .ok (N * mult / 10 ^ d) := by
  obtain ⟨ht, hdr⟩ := takeWhile_dropWhile_append isNumCh num u hnum fun x hx => hu x (List.mem_of_mem_head? hx)
  have hp2 : isPow2 mult = true :=
    List.all_eq_true.mp table_all_pow2 _ (lookupSuffix_mem hl)
  have hmult := isPow2_spec mult hp2
  have hle := Nat.div_le_self (N * mult) (10 ^ d)
  simp only [parseBytes, ht, hdr, hp, hl, scaleToU64, hp2, if_true]
  rw [rn53_trunc N (10 ^ d) _ (Nat.pow_pos (by omega)) (hmult ▸ hfit), ← hmult,
    Nat.min_eq_left (by unfold u64Max; omega)]

end Imdlv.ByteSize
