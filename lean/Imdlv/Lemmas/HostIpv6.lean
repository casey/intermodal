import Imdlv.Lemmas.HostIpv4
/-!
# IPv6 text: the printers and the parser (C17)

For every eight 16-bit groups the compressed lower-hex text (`showIpv6Plain`, shared by url's
printer and std's) parses back to exactly those groups (`parseIpv6_show`). Text written as
non-empty colon-free groups joined by single colons, with at most one `::` between two such runs,
is read group by group: the written `::` is the one the parser finds. The run the printer elides
consists of zeros only (`longestZeroRun_spec`, an invariant of the scanning loop).
-/
namespace Imdlv.HostPort

theorem hexDigit_table : ∀ k, k < 16 → hexVal (hexDigit k) = some k := by decide +kernel

theorem hexChars_eq (n : Nat) : hexChars n =
    if n < 16 then [hexDigit n] else if n < 256 then [hexDigit (n / 16), hexDigit (n % 16)]
    else if n < 4096 then [hexDigit (n / 256), hexDigit (n / 16 % 16), hexDigit (n % 16)]
    else [hexDigit (n / 4096 % 16), hexDigit (n / 256 % 16), hexDigit (n / 16 % 16), hexDigit (n % 16)] := by
  unfold hexChars hexDigit
  rfl

/-- Horner step in base 16: the digit at `k` under all that is above it; `k'` is an argument of its own so that the
literals `256`, `4096` of `hexChars` match as they stand (`hex_step n 16 256 rfl`) -/
theorem hex_step (x k k' : Nat) (hk : k' = k * 16) : x / k' * 16 + x / k % 16 = x / k := by
  subst hk
  rw [← Nat.div_div_eq_div_mul]
  exact Nat.div_add_mod' _ _

theorem hexChars_group (n : Nat) (hn : n < 65536) : isHexGroup (hexChars n) = true ∧ hexGroupVal (hexChars n) = n := by
  have lo (x : Nat) : hexVal (hexDigit (x % 16)) = some (x % 16) := hexDigit_table _ (Nat.mod_lt _ (by decide))
  have hi (k : Nat) (h : n < k * 16) : hexVal (hexDigit (n / k)) = some (n / k) :=
    hexDigit_table _ (Nat.div_lt_of_lt_mul h)
  rw [hexChars_eq]
  split
  · next h => simp [isHexGroup, hexGroupVal, hexDigit_table n h]
  split
  · next h => simp [isHexGroup, hexGroupVal, lo, hi 16 h, Nat.div_add_mod']
  split
  · next h => simp [isHexGroup, hexGroupVal, lo, hi 256 h, hex_step n 16 256 rfl, Nat.div_add_mod']
  · simp [isHexGroup, hexGroupVal, lo, Nat.mod_eq_of_lt (Nat.div_lt_of_lt_mul hn : n / 4096 < 16), hi 4096 hn,
      hex_step n 256 4096 rfl, hex_step n 16 256 rfl, Nat.div_add_mod']

theorem isHexGroup_iff (g : List Char) : isHexGroup g = true ↔
    g.isEmpty = false ∧ g.length ≤ 4 ∧ g.all (fun c => (hexVal c).isSome) = true := by
  simp only [isHexGroup, Bool.and_eq_true, Bool.not_eq_true', decide_eq_true_eq, and_assoc]

theorem hexGroup_not_contains (g : List Char) (h : isHexGroup g = true) (c : Char) (hc : hexVal c = none) :
    g.contains c = false :=
  contains_false_of_all ((isHexGroup_iff g).mp h).2.2 (by rw [hc]; rfl)

def Grp (g : List Char) : Prop := g.contains ':' = false ∧ g.isEmpty = false

theorem hexGroup_grp {g : List Char} (h : isHexGroup g = true) : Grp g :=
  ⟨hexGroup_not_contains g h ':' (by decide), ((isHexGroup_iff g).mp h).1⟩

theorem joinColon_eq : joinColon = joinBy ':' := by
  funext gs; fun_induction joinColon gs <;> simp only [joinBy, *]

theorem joinColon_cons_cons (g g2 : List Char) (t : List (List Char)) :
    joinColon (g :: g2 :: t) = g ++ ':' :: joinColon (g2 :: t) :=
  joinColon_eq ▸ joinBy_cons_cons g g2 t

theorem joinColon_head (g : List Char) (t : List (List Char)) (hg : Grp g) :
    ∃ c rest, joinColon (g :: t) = c :: rest ∧ c ≠ ':' := by
  obtain ⟨h1, h2⟩ := hg
  cases g with
  | nil => simp at h2
  | cons c g' =>
    have hc := (contains_cons_eq_false.mp h1).1
    cases t with
    | nil => exact ⟨c, g', rfl, hc⟩
    | cons g2 t' => exact ⟨c, g' ++ ':' :: joinColon (g2 :: t'), by rw [joinColon_cons_cons]; rfl, hc⟩

theorem splitOnCh_joinColon (gs : List (List Char)) (hne : gs ≠ []) (h : ∀ g ∈ gs, g.contains ':' = false) :
    splitOnCh ':' (joinColon gs) = gs := by
  rw [splitOnCh_eq, joinColon_eq]; exact splitBy_joinBy hne h

theorem joinColon_head_ne (L : List (List Char)) (h : ∀ g ∈ L, Grp g) :
    ((joinColon L).head? == some ':') = false := by
  cases L with
  | nil => rfl
  | cons g t =>
    obtain ⟨c, r, e, hc⟩ := joinColon_head g t (h g (by simp))
    rw [e]; simpa using hc

theorem findDoubleColon_cons_ne (c : Char) (t : List Char) (h : c ≠ ':') :
    findDoubleColon (c :: t) = (findDoubleColon t).map fun (a, b) => (c :: a, b) :=
  findDoubleColon.eq_2 c t fun _ e _ => h e

theorem findDoubleColon_colon_ne (c : Char) (t : List Char) (h : c ≠ ':') :
    findDoubleColon (':' :: c :: t) = (findDoubleColon (c :: t)).map fun (a, b) => (':' :: a, b) :=
  findDoubleColon.eq_2 ':' (c :: t) fun _ _ e => h (List.cons.inj e).1

theorem findDoubleColon_cc (t : List Char) : findDoubleColon (':' :: ':' :: t) = some ([], t) := rfl

theorem findDoubleColon_group_append : ∀ (g t : List Char), g.contains ':' = false →
    findDoubleColon (g ++ t) = (findDoubleColon t).map fun (a, b) => (g ++ a, b)
  | [], t, _ => by
    show findDoubleColon t = _
    cases findDoubleColon t <;> rfl
  | c :: g, t, h => by
    have ⟨hc, hg⟩ := contains_cons_eq_false.mp h
    rw [List.cons_append, findDoubleColon_cons_ne _ _ hc, findDoubleColon_group_append g t hg]
    cases findDoubleColon t <;> rfl

/-- Groups joined by single colons hold no double colon and do not end in a colon: the first
double colon of what follows them is the first of the whole. -/
theorem findDoubleColon_join : ∀ (L : List (List Char)) (rest : List Char), (∀ g ∈ L, Grp g) →
    findDoubleColon (joinColon L ++ rest) = (findDoubleColon rest).map fun (a, b) => (joinColon L ++ a, b)
  | [], rest, _ => by cases h : findDoubleColon rest <;> simp [joinColon, h]
  | [g], rest, h => findDoubleColon_group_append g rest (h g (by simp)).1
  | g :: g2 :: t, rest, h => by
    obtain ⟨c, r, e, hc⟩ := joinColon_head g2 t (h g2 (by simp))
    have ih := findDoubleColon_join (g2 :: t) rest (fun x hx => h x (List.mem_cons_of_mem _ hx))
    rw [joinColon_cons_cons, List.append_assoc, findDoubleColon_group_append _ _ (h g (by simp)).1]
    rw [e] at ih ⊢
    rw [List.cons_append, List.cons_append, findDoubleColon_colon_ne _ _ hc, ← List.cons_append, ih]
    cases findDoubleColon rest <;> simp

theorem findDoubleColon_join_none (L : List (List Char)) (h : ∀ g ∈ L, Grp g) :
    findDoubleColon (joinColon L) = none := by
  simpa [findDoubleColon] using findDoubleColon_join L [] h

theorem findDoubleColon_join_dc (L : List (List Char)) (rest : List Char) (h : ∀ g ∈ L, Grp g) :
    findDoubleColon (joinColon L ++ ':' :: ':' :: rest) = some (joinColon L, rest) := by
  rw [findDoubleColon_join L _ h, findDoubleColon_cc]
  simp

def ZeroRun (segs : List Nat) (s n : Nat) : Prop :=
  ∃ pre post, segs = pre ++ List.replicate n 0 ++ post ∧ pre.length = s

/-- what the scanning loop knows of its best run so far: it is a run of zeros somewhere in `segs` -/
def BestRun (segs : List Nat) (best : Option (Nat × Nat)) : Prop :=
  ∀ s n, best = some (s, n) → ZeroRun segs s n

/-- … and of its current run: it is the zeros that `pre`, the part scanned, ends in -/
def CurRun (pre : List Nat) (cur : Option (Nat × Nat)) : Prop :=
  ∀ s n, cur = some (s, n) → ∃ p, pre = p ++ List.replicate n 0 ∧ p.length = s

/-- the local `fin` of `longestZeroRun.go` -/
def finM (cur best : Option (Nat × Nat)) : Option (Nat × Nat) :=
  match cur, best with
  | some (s, n), some (_, bn) => if n > bn then some (s, n) else best
  | some c, none => some c
  | none, b => b

theorem finM_run {segs pre l : List Nat} {cur best : Option (Nat × Nat)} (hsegs : segs = pre ++ l)
    (hc : CurRun pre cur) (hb : BestRun segs best) : BestRun segs (finM cur best) := by
  intro s n h
  have : cur = some (s, n) ∨ best = some (s, n) := by
    unfold finM at h
    split at h
    · split at h
      · exact .inl h
      · exact .inr h
    · exact .inl h
    · exact .inr h
  rcases this with h | h
  · obtain ⟨p, hp, hl⟩ := hc s n h
    exact ⟨p, l, by rw [hsegs, hp], hl⟩
  · exact hb s n h

theorem go_inv (segs : List Nat) (i : Nat) (l : List Nat) (cur best : Option (Nat × Nat)) : ∀ pre : List Nat,
    segs = pre ++ l → i = pre.length → CurRun pre cur → BestRun segs best →
    BestRun segs (longestZeroRun.go i l cur best) := by
  induction i, l, cur, best using longestZeroRun.go.induct with
  | case1 i cur best => exact fun pre hsegs _ hc hb => finM_run hsegs hc hb -- end of the list
  | case2 i best t s n ih => -- a zero extends the current run
    intro pre hsegs hi hc hb
    obtain ⟨p, hp, hl⟩ := hc s n rfl
    exact ih (pre ++ [0]) (by simp [hsegs]) (by simp [hi])
      (fun _ _ e => by cases e; exact ⟨p, by rw [hp, List.replicate_succ', List.append_assoc], hl⟩) hb
  | case3 i best t ih => -- a zero starts a run
    intro pre hsegs hi hc hb
    exact ih (pre ++ [0]) (by simp [hsegs]) (by simp [hi]) (fun _ _ e => by cases e; exact ⟨pre, rfl, hi.symm⟩) hb
  | case4 i cur best fin x t hx ih => -- a non-zero group closes the current run
    intro pre hsegs hi hc hb
    rw [longestZeroRun.go.eq_def]
    dsimp only
    rw [if_neg hx]
    exact ih (pre ++ [x]) (by simp [hsegs]) (by simp [hi]) nofun (finM_run hsegs hc hb)

theorem longestZeroRun_spec {segs : List Nat} {s n : Nat} (h : longestZeroRun segs = some (s, n)) :
    2 ≤ n ∧ ZeroRun segs s n := by
  unfold longestZeroRun at h
  match hgo : longestZeroRun.go 0 segs none none, h with
  | some r, h =>
    obtain ⟨hn, h⟩ := then_of_ite_eq h nofun
    cases h
    exact ⟨hn, go_inv segs 0 segs none none [] rfl rfl nofun nofun _ _ hgo⟩

theorem zeroRun_split {segs : List Nat} {s n : Nat} (h : ZeroRun segs s n) :
    ∃ pre post, segs = pre ++ List.replicate n 0 ++ post ∧ segs.take s = pre ∧ segs.drop (s + n) = post := by
  obtain ⟨p, q, rfl, rfl⟩ := h
  exact ⟨p, q, rfl, by rw [List.append_assoc, List.take_left], List.drop_left' (by simp)⟩

theorem groupsVals_cons_cons (g g2 : List Char) (t : List (List Char)) (b : Bool) :
    groupsVals (g :: g2 :: t) b = if isHexGroup g then (groupsVals (g2 :: t) b).map (hexGroupVal g :: ·) else none :=
  groupsVals.eq_3 b g (g2 :: t) nofun

theorem groupsVals_hex (b : Bool) : ∀ (vs : List Nat), (∀ x ∈ vs, x < 65536) →
    groupsVals (vs.map hexChars) b = some vs
  | [], _ => rfl
  | [v], h => by
    have := hexChars_group v (h v (by simp))
    simp [groupsVals, this.1, this.2]
  | v :: v2 :: t, h => by
    have := hexChars_group v (h v (by simp))
    have ih := groupsVals_hex b (v2 :: t) (fun x hx => h x (List.mem_cons_of_mem _ hx))
    rw [List.map_cons, List.map_cons, groupsVals_cons_cons, if_pos this.1, this.2, ← List.map_cons, ih]
    rfl

theorem map_hexChars_grp (vs : List Nat) (h : ∀ x ∈ vs, x < 65536) : ∀ g ∈ vs.map hexChars, Grp g := by
  intro g hg
  obtain ⟨v, hv, rfl⟩ := List.mem_map.mp hg
  exact hexGroup_grp (hexChars_group v (h v hv)).1

/-- the groups of one side of `::`: empty text is no group -/
def sideVals (t : List Char) (allowTail : Bool) : Option (List Nat) :=
  if t.isEmpty then some [] else groupsVals (splitOnCh ':' t) allowTail

theorem parseIpv6_eq (s : List Char) : parseIpv6 s =
    match findDoubleColon s with
    | none =>
      match groupsVals (splitOnCh ':' s) true with
      | some vs => if vs.length == 8 then some vs else none
      | none => none
    | some (l, r) =>
      if r.head? == some ':' || (findDoubleColon r).isSome then none else
      match sideVals l false, sideVals r true with
      | some a, some b =>
        if a.length + b.length ≤ 7 then some (a ++ List.replicate (8 - a.length - b.length) 0 ++ b) else none
      | _, _ => none := rfl

theorem sideVals_join {b : Bool} (L : List (List Char)) (h : ∀ g ∈ L, Grp g) :
    sideVals (joinColon L) b = groupsVals L b := by
  cases L with
  | nil => rfl
  | cons g t =>
    obtain ⟨c, r, e, _⟩ := joinColon_head g t (h g (by simp))
    rw [sideVals, if_neg (by rw [e]; nofun), splitOnCh_joinColon _ (List.cons_ne_nil g t) fun x hx => (h x hx).1]

theorem parseIpv6_join {L : List (List Char)} {vs : List Nat} (h : ∀ g ∈ L, Grp g)
    (hv : groupsVals L true = some vs) (hlen : vs.length = 8) : parseIpv6 (joinColon L) = some vs := by
  have hne : L ≠ [] := fun e => by subst e; cases hv; cases hlen
  rw [parseIpv6_eq, findDoubleColon_join_none L h, splitOnCh_joinColon L hne fun g hg => (h g hg).1, hv]
  exact if_pos (by rw [hlen]; rfl)

theorem parseIpv6_join_dc {L R : List (List Char)} {a b : List Nat} (hL : ∀ g ∈ L, Grp g) (hR : ∀ g ∈ R, Grp g)
    (ha : groupsVals L false = some a) (hb : groupsVals R true = some b) (hlen : a.length + b.length ≤ 7) :
    parseIpv6 (joinColon L ++ ':' :: ':' :: joinColon R) =
      some (a ++ List.replicate (8 - a.length - b.length) 0 ++ b) := by
  rw [parseIpv6_eq, findDoubleColon_join_dc L _ hL]
  dsimp only
  rw [joinColon_head_ne R hR, findDoubleColon_join_none R hR, sideVals_join L hL, sideVals_join R hR, ha, hb]
  exact if_pos hlen

theorem parseIpv6_show (segs : List Nat) (hl : segs.length = 8) (hs : ∀ x ∈ segs, x < 65536) :
    parseIpv6 (showIpv6Plain segs) = some segs := by
  unfold showIpv6Plain
  cases hz : longestZeroRun segs with
  | none =>
    exact parseIpv6_join (map_hexChars_grp segs hs) (groupsVals_hex true segs hs) hl
  | some r =>
    obtain ⟨hn, hzr⟩ := longestZeroRun_spec hz
    obtain ⟨pre, post, rfl, hpre, hpost⟩ := zeroRun_split hzr
    have hL : ∀ x ∈ pre, x < 65536 := fun x hx => hs x (by simp [hx])
    have hR : ∀ x ∈ post, x < 65536 := fun x hx => hs x (by simp [hx])
    simp only [List.length_append, List.length_replicate] at hl
    show parseIpv6 (joinColon ((List.take r.1 _).map hexChars) ++ [':', ':'] ++
      joinColon ((List.drop (r.1 + r.2) _).map hexChars)) = _
    -- the elided run is what the parser puts back: `8 - pre.length - post.length` zeros
    rw [hpre, hpost, List.append_assoc, ← show 8 - pre.length - post.length = r.2 by omega]
    exact parseIpv6_join_dc (map_hexChars_grp _ hL) (map_hexChars_grp _ hR) (groupsVals_hex _ _ hL)
      (groupsVals_hex _ _ hR) (by omega)

theorem showIpv6Plain_colon (segs : List Nat) (hl : segs.length = 8) : (showIpv6Plain segs).contains ':' = true := by
  unfold showIpv6Plain
  split
  · match segs, hl with
    | a :: b :: t, _ => rw [List.map_cons, List.map_cons, joinColon_cons_cons]; simp
  · simp

theorem showIpv6Plain_chars (segs : List Nat) (hs : ∀ x ∈ segs, x < 65536) :
    (showIpv6Plain segs).all (fun c => (hexVal c).isSome || c == ':') = true := by
  have key (vs : List Nat) (hv : ∀ x ∈ vs, x < 65536) :
      (joinColon (vs.map hexChars)).all (fun c => (hexVal c).isSome || c == ':') = true := by
    rw [joinColon_eq, List.all_eq_true]
    refine joinBy_forall (P := fun c => ((hexVal c).isSome || c == ':') = true) rfl fun g hg => ?_
    obtain ⟨v, hv', rfl⟩ := List.mem_map.mp hg
    have := List.all_eq_true.mp ((isHexGroup_iff _).mp (hexChars_group v (hv v hv')).1).2.2
    exact fun c hc => by rw [this c hc]; rfl
  unfold showIpv6Plain
  split
  · exact key segs hs
  · rw [List.all_append, List.all_append, key _ (fun x hx => hs x (List.mem_of_mem_take hx)),
      key _ (fun x hx => hs x (List.mem_of_mem_drop hx))]
    rfl

theorem hexVal_lt {c : Char} {v : Nat} (h : hexVal c = some v) : v < 16 := by
  unfold hexVal at h
  obtain ⟨h1, h⟩ | ⟨_, h⟩ := ite_eq_cases h
  · injection h with h; have : c.toNat ≤ 57 := h1.2; omega
  obtain ⟨h2, h⟩ | ⟨_, h⟩ := ite_eq_cases h
  · injection h with h; have : c.toNat ≤ 102 := h2.2; omega
  obtain ⟨h3, h⟩ := then_of_ite_eq h nofun
  injection h with h; have : c.toNat ≤ 70 := h3.2; omega

theorem hexFold_lt : ∀ (g : List Char) (acc : Nat), g.all (fun c => (hexVal c).isSome) = true →
    g.foldl (fun a c => a * 16 + (hexVal c).getD 0) acc < (acc + 1) * 16 ^ g.length
  | [], acc, _ => by simp
  | c :: t, acc, h => by
    simp only [List.all_cons, Bool.and_eq_true] at h
    obtain ⟨v, hv⟩ := Option.isSome_iff_exists.mp h.1
    have hlt := hexVal_lt hv
    have ih := hexFold_lt t (acc * 16 + v) h.2
    simp only [List.foldl_cons, hv, Option.getD_some, List.length_cons]
    calc _ < (acc * 16 + v + 1) * 16 ^ t.length := ih
      _ ≤ ((acc + 1) * 16) * 16 ^ t.length := Nat.mul_le_mul_right _ (by omega)
      _ = (acc + 1) * 16 ^ (t.length + 1) := by rw [Nat.pow_succ, Nat.mul_assoc, Nat.mul_comm 16]

theorem hexGroup_lt (g : List Char) (h : isHexGroup g = true) : hexGroupVal g < 65536 := by
  obtain ⟨-, hlen, hall⟩ := (isHexGroup_iff g).mp h
  have := hexFold_lt g 0 hall
  unfold hexGroupVal
  have hp : 16 ^ g.length ≤ 16 ^ 4 := Nat.pow_le_pow_right (by omega) hlen
  omega

theorem groupsVals_lt (b : Bool) : ∀ (gs : List (List Char)) (vs : List Nat), groupsVals gs b = some vs →
    ∀ x ∈ vs, x < 65536
  | [], vs, h => by cases h; nofun
  | [g], vs, h => by
    rw [groupsVals] at h
    obtain ⟨hg, h⟩ | ⟨_, h⟩ := ite_eq_cases h
    · cases h; simpa using hexGroup_lt g hg
    · obtain ⟨⟨a, c⟩, ht, rfl⟩ := Option.map_eq_some_iff.mp (then_of_ite_eq h nofun).2
      simpa using ipv4Tail_lt ht
  | g :: g2 :: t, vs, h => by
    rw [groupsVals_cons_cons] at h
    obtain ⟨hg, h⟩ := then_of_ite_eq h nofun
    obtain ⟨r, hr, rfl⟩ := Option.map_eq_some_iff.mp h
    intro x hx
    rcases List.mem_cons.mp hx with rfl | hx
    · exact hexGroup_lt g hg
    · exact groupsVals_lt b (g2 :: t) r hr x hx

theorem sideVals_lt {t : List Char} {b : Bool} {vs : List Nat} (h : sideVals t b = some vs) : ∀ x ∈ vs, x < 65536 := by
  obtain ⟨_, h⟩ | ⟨_, h⟩ := ite_eq_cases h
  · cases h; nofun
  · exact groupsVals_lt b _ _ h

theorem parseIpv6_ok {s : List Char} {segs : List Nat} (h : parseIpv6 s = some segs) :
    segs.length = 8 ∧ ∀ x ∈ segs, x < 65536 := by
  rw [parseIpv6_eq] at h
  match hf : findDoubleColon s, h with
  | none, h =>
    match hg : groupsVals (splitOnCh ':' s) true, h with
    | some vs, h =>
      obtain ⟨hl, h⟩ := then_of_ite_eq h nofun
      cases h
      exact ⟨by simpa using hl, groupsVals_lt true _ _ hg⟩
  | some (l, r), h =>
    obtain ⟨_, h⟩ := else_of_ite_eq h nofun
    match hl : sideVals l false, hr : sideVals r true, h with
    | some a, some c, h =>
      obtain ⟨hlen, h⟩ := then_of_ite_eq h nofun
      cases h
      refine ⟨by simp; omega, fun x hx => ?_⟩
      simp only [List.mem_append, List.mem_replicate] at hx
      rcases hx with (hx | hx) | hx
      · exact sideVals_lt hl x hx
      · omega
      · exact sideVals_lt hr x hx

/-! ### std's dotted tail for IPv4-mapped addresses -/

theorem mapped_text (t : List Char) : "::ffff:".toList ++ t = ':' :: ':' :: joinColon [['f', 'f', 'f', 'f'], t] := by
  -- the literal is turned into its characters by the kernel: the elaborator, left to do it for `rfl`, is slow at it
  rw [show "::ffff:".toList = [':', ':', 'f', 'f', 'f', 'f', ':'] by decide +kernel]
  rfl

theorem parseIpv6_mapped (m : Nat) :
    parseIpv6 ("::ffff:".toList ++ showIpv4 m) = some [0, 0, 0, 0, 0, 65535, m / 65536 % 65536, m % 65536] := by
  have hcl : (showIpv4 m).contains ':' = false := contains_false_of_all (showIpv4_lower m) (by decide)
  have hdot : (showIpv4 m).contains '.' = true := by simp [showIpv4]
  have hnx : ¬ isHexGroup (showIpv4 m) = true := fun h => by
    rw [hexGroup_not_contains _ h '.' (by decide)] at hdot; cases hdot
  have hgrp : ∀ g ∈ [['f', 'f', 'f', 'f'], showIpv4 m], Grp g :=
    List.forall_mem_cons.mpr ⟨hexGroup_grp (by decide),
      List.forall_mem_singleton.mpr ⟨hcl, showIpv4_isEmpty m⟩⟩
  have hr : groupsVals [['f', 'f', 'f', 'f'], showIpv4 m] true = some [65535, m / 65536 % 65536, m % 65536] := by
    rw [groupsVals_cons_cons, if_pos (by decide), groupsVals, if_neg hnx, ipv4Tail_showIpv4, hdot]
    rfl
  rw [mapped_text]
  exact parseIpv6_join_dc (L := []) nofun hgrp rfl hr (show 0 + 3 ≤ 7 by decide)

/-- std's text always holds a colon, so the pair reader brackets it again; inside the brackets it
parses back, dotted tail or not -/
theorem parseIpv6_showStd (segs : List Nat) (hl : segs.length = 8) (hs : ∀ x ∈ segs, x < 65536) :
    (showIpv6Std segs).contains ':' = true ∧ parseIpv6 (showIpv6Std segs) = some segs := by
  unfold showIpv6Std
  split
  · rename_i a b
    have ha := hs a (by simp)
    have hb := hs b (by simp)
    refine ⟨by rw [mapped_text]; rfl, ?_⟩
    rw [parseIpv6_mapped, Nat.mul_comm, Nat.mul_add_div (by decide), Nat.mul_add_mod, Nat.div_eq_of_lt hb,
      Nat.mod_eq_of_lt hb, Nat.add_zero, Nat.mod_eq_of_lt ha]
  · exact ⟨showIpv6Plain_colon segs hl, parseIpv6_show segs hl hs⟩

end Imdlv.HostPort
