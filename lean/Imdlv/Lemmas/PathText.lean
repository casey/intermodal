import Imdlv.Lemmas.Paths
/-!
# The text interface of the path model: `comps (render cs) = cs`

`render` (successive `PathBuf::push`) followed by `comps` (`Path::components()`) gives back every list made of
`..` and well-formed names, optionally behind a root (`TextOk`): such a list renders to its texts with a `/`
between them, splitting at `/` gives the texts back, and `segToPC` reads each as the component it came from.

What `torrentPath` produces from a parsed path is `TextOk` (`textOk_torrentPath`), because `joinC`, the loop and
`lexiclean` add no component of their own and the appended `..` rules out `lexiclean`'s early return `[.cur]`,
which is not `TextOk`. So the default torrent path, printed and later handed back to imdl, denotes the same
components.
-/
namespace Imdlv.Paths

/-- a well-formed name: what `components()` yields as `Normal` -/
def SegOk (s : Bytes) : Prop := s ≠ [] ∧ s ≠ [46] ∧ s ≠ [46, 46] ∧ s.contains 47 = false

def PlainC (c : PC) : Prop := c = PC.parent ∨ ∃ s, c = PC.normal s ∧ SegOk s

def NamesOk (x : CPath) : Prop := ∀ s, PC.normal s ∈ x → SegOk s

def TextOk (cs : CPath) : Prop := (∀ c ∈ cs, PlainC c) ∨ ∃ t, cs = PC.root :: t ∧ ∀ c ∈ t, PlainC c

theorem splitSlash_eq (p : Bytes) : splitSlash p = splitBy 47 p := by
  induction p with
  | nil => rfl
  | cons x rest ih =>
    rw [splitSlash, ih, splitBy_cons]
    split
    · rfl
    · cases splitBy 47 rest <;> rfl

theorem segToPC_some {seg : Bytes} {c : PC} (h : segToPC seg = some c) :
    c = .parent ∨ c = .normal seg ∧ seg ≠ [] ∧ seg ≠ [46] ∧ seg ≠ [46, 46] := by
  obtain ⟨h1, h⟩ := else_of_ite_eq h nofun
  obtain ⟨h2, h⟩ := else_of_ite_eq h nofun
  obtain ⟨_, h⟩ | ⟨h3, h⟩ := ite_eq_cases h
  · cases h; exact .inl rfl
  · cases h; exact .inr ⟨rfl, h1, h2, h3⟩

theorem segToPC_segOk {s : Bytes} (h : SegOk s) : segToPC s = some (.normal s) := by
  rw [segToPC, if_neg h.1, if_neg h.2.1, if_neg h.2.2.1]

theorem comps_cases (p : Bytes) : ∃ pre, comps p = pre ++ (splitSlash p).filterMap segToPC ∧
    (pre = [] ∨ pre = [.cur] ∨ pre = [.root]) := by
  unfold comps
  split
  · exact ⟨_, rfl, .inr (.inr rfl)⟩
  · dsimp only
    split
    · exact ⟨_, rfl, .inr (.inl rfl)⟩
    · exact ⟨_, rfl, .inl rfl⟩

theorem comps_rel {p : Bytes} (h1 : p.head? ≠ some 47) (h2 : (splitSlash p).head? ≠ some [46]) :
    comps p = (splitSlash p).filterMap segToPC := by
  unfold comps
  split
  · exact absurd rfl h1
  · dsimp only
    split
    · next heq => exact absurd (by rw [heq]; rfl) h2
    · rfl

theorem comps_root (p : Bytes) : comps (47 :: p) = .root :: (splitSlash p).filterMap segToPC := rfl

theorem rel_segments (p : Bytes) : Rel ((splitSlash p).filterMap segToPC) := by
  intro c hc
  obtain ⟨seg, -, hseg⟩ := List.mem_filterMap.mp hc
  rcases segToPC_some hseg with rfl | ⟨rfl, -⟩ <;> nofun

theorem comps_namesOk (p : Bytes) : NamesOk (comps p) := by
  intro s hs
  obtain ⟨pre, e, hpre⟩ := comps_cases p
  rw [e] at hs
  rcases List.mem_append.mp hs with h | h
  · rcases hpre with rfl | rfl | rfl <;> simp at h
  · obtain ⟨seg, hm, hseg⟩ := List.mem_filterMap.mp h
    rcases segToPC_some hseg with h | ⟨h, h1, h2, h3⟩
    · cases h
    · cases h; exact ⟨h1, h2, h3, splitBy_pieces p s (splitSlash_eq p ▸ hm)⟩

theorem pcText_plain {c : PC} (h : PlainC c) :
    pcText c ≠ [] ∧ (pcText c).contains 47 = false ∧ pcText c ≠ [46] ∧ segToPC (pcText c) = some c := by
  rcases h with rfl | ⟨s, rfl, h⟩
  · exact ⟨by decide, by decide, by decide, by decide⟩
  · exact ⟨h.1, h.2.2.2, h.2.1, segToPC_segOk h⟩

theorem texts_plain {cs : CPath} (h : ∀ c ∈ cs, PlainC c) :
    ∀ t ∈ cs.map pcText, t ≠ [] ∧ t.contains 47 = false :=
  List.forall_mem_map.mpr fun c hc => let ⟨t1, t2, _⟩ := pcText_plain (h c hc); ⟨t1, t2⟩

/-- pushing non-empty separator-free segments onto text that ends in one puts a separator before each -/
theorem foldl_pushText (ts : List Bytes) (h : ∀ t ∈ ts, t ≠ [] ∧ t.contains 47 = false)
    (a t : Bytes) (t1 : t ≠ []) (t2 : t.contains 47 = false) :
    ts.foldl pushText (a ++ t) = a ++ t ++ ts.flatMap (47 :: ·) := by
  induction ts generalizing a t with
  | nil => exact (List.append_nil _).symm
  | cons u ts ih =>
    have ⟨⟨u1, u2⟩, hts⟩ := List.forall_mem_cons.mp h
    have hstep : pushText (a ++ t) u = (a ++ t ++ [47]) ++ u := by
      rw [pushText, if_neg (head?_ne_sep u2), if_neg (List.append_ne_nil_of_right_ne_nil _ t1),
        if_neg (getLast?_append_ne t1 t2)]
    rw [List.foldl_cons, hstep, ih hts _ u u1 u2, List.flatMap_cons]
    simp only [List.append_assoc, List.cons_append, List.nil_append]

theorem pushText_nil {t : Bytes} (h : t.contains 47 = false) : pushText [] t = t := by
  rw [pushText, if_neg (head?_ne_sep h), if_pos rfl]

theorem render_cons {c : PC} {cs : CPath} (h : ∀ c' ∈ c :: cs, PlainC c') :
    render (c :: cs) = pcText c ++ (cs.map pcText).flatMap (47 :: ·) := by
  have ⟨⟨t1, t2⟩, hts⟩ := List.forall_mem_cons.mp (texts_plain h)
  rw [render, ← List.foldl_map, List.map_cons, List.foldl_cons, pushText_nil t2]
  exact foldl_pushText _ hts [] _ t1 t2

theorem render_root {cs : CPath} (h : ∀ c ∈ cs, PlainC c) : render (.root :: cs) = 47 :: render cs := by
  cases cs with
  | nil => rfl
  | cons c cs =>
    have ⟨⟨t1, t2⟩, hts⟩ := List.forall_mem_cons.mp (texts_plain h)
    have hstep : pushText [47] (pcText c) = [47] ++ pcText c := by
      rw [pushText, if_neg (head?_ne_sep t2)]; rfl
    rw [render_cons h, render, ← List.foldl_map, List.map_cons, List.map_cons, List.foldl_cons, List.foldl_cons,
      show pushText [] (pcText .root) = [47] from rfl, hstep, foldl_pushText _ hts _ _ t1 t2]
    rfl

theorem splitSlash_render {c : PC} {cs : CPath} (h : ∀ c' ∈ c :: cs, PlainC c') :
    splitSlash (render (c :: cs)) = (c :: cs).map pcText := by
  have ⟨⟨_, t2⟩, hts⟩ := List.forall_mem_cons.mp (texts_plain h)
  rw [render_cons h, splitSlash_eq, splitBy_join _ _ t2 fun t ht => (hts t ht).2]; rfl

theorem filterMap_texts {cs : CPath} (h : ∀ c ∈ cs, PlainC c) : (cs.map pcText).filterMap segToPC = cs := by
  induction cs with
  | nil => rfl
  | cons c cs ih =>
    have ⟨hc, hcs⟩ := List.forall_mem_cons.mp h
    obtain ⟨-, -, -, hseg⟩ := pcText_plain hc
    rw [List.map_cons, List.filterMap_cons, hseg, ih hcs]

theorem comps_render (cs : CPath) (h : TextOk cs) : comps (render cs) = cs := by
  rcases h with h | ⟨t, rfl, h⟩
  · cases cs with
    | nil => rfl
    | cons c cs =>
      -- the text starts with neither `/` nor a segment `.`
      obtain ⟨t1, t2, t3, -⟩ := pcText_plain (h c List.mem_cons_self)
      have hhead : (render (c :: cs)).head? ≠ some 47 := by
        rw [render_cons h]
        cases hp : pcText c with
        | nil => exact absurd hp t1
        | cons x t => rw [hp] at t2; exact fun e => (contains_cons_eq_false.mp t2).1 (Option.some.inj e)
      rw [comps_rel hhead (by rw [splitSlash_render h]; exact fun e => t3 (Option.some.inj e)),
        splitSlash_render h, filterMap_texts h]
  · rw [render_root h, comps_root]
    cases t with
    | nil => rfl
    | cons c t => rw [splitSlash_render h, filterMap_texts h]

theorem comps_of_name {n : Bytes} (h : SegOk n) : comps n = [PC.normal n] := by
  have := comps_render [.normal n] (.inl fun c hc => .inr ⟨n, List.mem_singleton.mp hc, h⟩)
  rwa [show render [.normal n] = n from pushText_nil h.2.2.2] at this

open C02 (InputShape)

theorem textOk_of {x : CPath} (h : InputShape x) (hok : NamesOk x) (hc : PC.cur ∉ x) : TextOk x := by
  have plain : ∀ c ∈ x, c ≠ .root → PlainC c := fun c hm hr => by
    cases c with
    | root => exact absurd rfl hr
    | cur => exact absurd hm hc
    | parent => exact .inl rfl
    | normal s => exact .inr ⟨s, rfl, hok s hm⟩
  rcases h with h | ⟨r, rfl, hr⟩
  · exact .inl fun c hm => plain c hm (h c hm)
  · exact .inr ⟨r, rfl, fun c hm => plain c (List.mem_cons_of_mem _ hm) (hr c hm)⟩

theorem namesOk_stack {cs : List Bytes} (hcs : ∀ s ∈ cs, SegOk s) {p : CPath} (hp : NamesOk p) :
    NamesOk (stack cs p) := fun s h =>
  match mem_joinC ((mem_run _ _ _ h).resolve_left nofun) with
  | .inl h => hcs s (by simpa [nm] using h)
  | .inr h => hp s h

theorem textOk_torrentPath {p : CPath} {s : Bytes} (h : InputShape p) (hok : NamesOk p) (hs : SegOk s) :
    TextOk (torrentPath p [.normal s]) := by
  refine textOk_of (h.torrentPath (by simp)) ?_ ?_
  all_goals rw [torrentPath, joinC_single_parent, joinC_single_normal]
  · intro s' hm
    rcases List.mem_append.mp hm with hm | hm
    · exact hok s' (by simpa using mem_lexiclean hm)
    · cases List.mem_singleton.mp hm; exact hs
  · simp [cur_not_mem_lexiclean (x := p ++ [.parent]) (by cases p <;> simp)]

theorem segOk_append {n t : Bytes} (h : SegOk n) (ht : t.contains 47 = false) (hl : 2 ≤ t.length) :
    SegOk (n ++ t) := by
  have hlen : 3 ≤ (n ++ t).length := by
    have := List.length_pos_iff.mpr h.1
    rw [List.length_append]; omega
  refine ⟨List.append_ne_nil_of_left_ne_nil h.1 _, ?_, ?_, by rw [List.contains_append, h.2.2.2, ht]; rfl⟩ <;>
    (intro e; rw [e] at hlen; exact absurd hlen (by decide))

end Imdlv.Paths
