import Imdlv.Model.Metainfo
import Imdlv.Lemmas.Basic
/-!
# Struct dictionaries

bendy writes a struct as the dictionary of its present fields, `structDict fs`. What the writers and
readers of the typed metainfo need of such a dictionary is proved here once, for an arbitrary field
list: it is sorted, its entries are fields, and when the field names are distinct a lookup returns
exactly what the struct holds under that name.
-/
namespace Imdlv.Metainfo
open Imdlv Imdlv.Bencode

/-- strictly ascending keys, the first one admissible after `last` (exactly the decoder's check) -/
def SortedFrom : Option Bytes → BDict → Prop
  | _, .nil => True
  | last, .cons k _ t => keyOk last k = true ∧ SortedFrom (some k) t

/-- the dictionary bendy's struct serializer emits for the fields `fs` (`none` = field skipped) -/
def structDict (fs : List (Bytes × Option BVal)) : BDict := dictOfFields (present fs)

theorem bytesLt_tri : ∀ (a b : Bytes), bytesLt a b = false → a ≠ b → bytesLt b a = true
  | [], [], _, h => absurd rfl h
  | [], _ :: _, h, _ => nomatch h
  | _ :: _, [], _, _ => rfl
  | x :: xs, y :: ys, h, hne => by
    simp only [bytesLt, Bool.or_eq_false_iff, Bool.and_eq_false_iff, decide_eq_false_iff_not, beq_eq_false_iff_ne,
      UInt8.not_lt] at h
    simp only [bytesLt, Bool.or_eq_true, Bool.and_eq_true, decide_eq_true_eq, beq_iff_eq]
    by_cases hxy : y = x
    · subst hxy
      exact .inr ⟨rfl, bytesLt_tri xs ys (h.2.resolve_left (· rfl)) (fun e => hne (e ▸ rfl))⟩
    · exact .inl (UInt8.lt_of_le_of_ne h.1 hxy)

theorem insertSorted_sorted (k : Bytes) (v : BVal) (d : BDict) (last : Option Bytes)
    (hs : SortedFrom last d) (hk : keyOk last k = true) : SortedFrom last (insertSorted k v d) := by
  fun_induction insertSorted k v d generalizing last with
  | case1 => exact ⟨hk, trivial⟩
  | case2 k' v' t hlt => exact ⟨hk, hlt, hs.2⟩
  | case3 v' t => exact hs
  | case4 k' v' t hlt he ih => exact ⟨hs.1, ih _ hs.2 (bytesLt_tri k k' (Bool.eq_false_iff.mpr hlt) he)⟩

theorem mem_insertSorted {k : Bytes} {v : BVal} {e : Bytes × BVal} {d : BDict}
    (h : e ∈ (insertSorted k v d).toList) : e = (k, v) ∨ e ∈ d.toList := by
  -- `toList` of a `cons` unfolds to a `cons`, so `List.mem_cons` applies as it stands
  fun_induction insertSorted k v d with
  | case1 => exact List.mem_cons.mp h
  | case2 k' v' t => exact List.mem_cons.mp h
  | case3 v' t => exact (List.mem_cons.mp h).imp_right (List.mem_cons_of_mem _)
  | case4 k' v' t _ _ ih =>
    exact (List.mem_cons.mp h).elim (fun h => .inr (h ▸ List.mem_cons_self ..)) fun h =>
      (ih h).imp_right (List.mem_cons_of_mem _)

theorem lookup_insertSorted (k : Bytes) (v : BVal) (k' : Bytes) (d : BDict) :
    (insertSorted k v d).lookup k' = if k = k' then some v else d.lookup k' := by
  fun_induction insertSorted k v d with
  | case1 => rfl
  | case2 k0 v0 t => rfl
  | case3 v0 t => exact ite_congr rfl (fun _ => rfl) fun h => (if_neg h).symm
  | case4 k0 v0 t _ he ih =>
    show (if k0 = k' then some v0 else _) = if k = k' then some v else if k0 = k' then some v0 else _
    rw [ih]
    by_cases h0 : k0 = k'
    · rw [if_pos h0, if_neg (h0 ▸ he), if_pos h0]
    · rw [if_neg h0, if_neg h0]

theorem encodeDict_insertSorted_length (k : Bytes) (v : BVal) (d : BDict) :
    (encodeDict (insertSorted k v d)).length ≤ (encBytes k).length + (encode v).length + (encodeDict d).length := by
  fun_induction insertSorted k v d <;> simp only [encodeDict, List.length_append] at * <;> omega

/-! The fold in `dictOfFields` is taken apart by `List.foldlRecOn`: what holds of the start and survives every
insertion holds of the result. -/

theorem dictOfFields_sorted (fs : List (Bytes × BVal)) : SortedFrom none (dictOfFields fs) :=
  List.foldlRecOn fs _ trivial fun d h f _ => insertSorted_sorted f.1 f.2 d none h rfl

theorem mem_dictOfFields {fs : List (Bytes × BVal)} : ∀ e ∈ (dictOfFields fs).toList, e ∈ fs :=
  List.foldlRecOn (motive := fun d : BDict => ∀ e ∈ d.toList, e ∈ fs) fs _ (fun _ h => nomatch h)
    fun _ ih _ hf e he => (mem_insertSorted he).elim (· ▸ hf) (ih e)

theorem lookup_foldl_frame {fs : List (Bytes × BVal)} {k : Bytes} (hk : k ∉ fs.map (·.1)) (d : BDict) :
    (fs.foldl (fun d f => insertSorted f.1 f.2 d) d).lookup k = d.lookup k :=
  List.foldlRecOn (motive := fun d' : BDict => d'.lookup k = d.lookup k) fs _ rfl fun d' ih f hf => by
    have hne : f.1 ≠ k := fun e => hk (e ▸ List.mem_map_of_mem hf)
    rw [lookup_insertSorted, if_neg hne, ih]

theorem mem_present {fs : List (Bytes × Option BVal)} {e : Bytes × BVal} : e ∈ present fs ↔ (e.1, some e.2) ∈ fs := by
  simp only [present, List.mem_filterMap, Option.map_eq_some_iff]
  constructor
  · rintro ⟨⟨k, _⟩, hf, v, rfl, rfl⟩; exact hf
  · exact fun h => ⟨_, h, e.2, rfl, rfl⟩

theorem keys_present {fs : List (Bytes × Option BVal)} {k : Bytes} (h : k ∈ (present fs).map (·.1)) :
    k ∈ fs.map (·.1) := by
  obtain ⟨e, he, rfl⟩ := List.mem_map.mp h
  exact List.mem_map_of_mem (f := (·.1)) (mem_present.mp he)

theorem structDict_sorted (fs : List (Bytes × Option BVal)) : SortedFrom none (structDict fs) := dictOfFields_sorted _

theorem mem_structDict {fs : List (Bytes × Option BVal)} {e : Bytes × BVal} (h : e ∈ (structDict fs).toList) :
    (e.1, some e.2) ∈ fs :=
  mem_present.mp (mem_dictOfFields e h)

theorem key_mem_structDict {fs : List (Bytes × Option BVal)} {e : Bytes × BVal} (h : e ∈ (structDict fs).toList) :
    e.1 ∈ fs.map (·.1) :=
  List.mem_map_of_mem (f := (·.1)) (mem_structDict h)

theorem lookup_struct_absent (fs : List (Bytes × Option BVal)) {k : Bytes} (h : k ∉ fs.map (·.1)) :
    (structDict fs).lookup k = none :=
  lookup_foldl_frame (mt keys_present h) .nil

theorem lookup_struct (fs : List (Bytes × Option BVal)) (hnd : (fs.map (·.1)).Nodup) :
    ∀ f ∈ fs, (structDict fs).lookup f.1 = f.2 := by
  intro f hf
  obtain ⟨a, b, rfl⟩ := List.append_of_mem hf
  rw [List.map_append, List.map_cons, List.nodup_append] at hnd
  obtain ⟨-, hb, hab⟩ := hnd
  have hfb : f.1 ∉ (present b).map (·.1) := mt keys_present (List.nodup_cons.mp hb).1
  have hfa : f.1 ∉ (present a).map (·.1) := mt keys_present fun h => hab _ h _ (.head _) rfl
  -- the fields after `f` leave its name alone; `f` sets it when present; when not, no field before `f` has set it
  rw [structDict, dictOfFields, present, List.filterMap_append, List.foldl_append, List.filterMap_cons]
  obtain ⟨k, _ | v⟩ := f
  · exact (lookup_foldl_frame hfb _).trans (lookup_foldl_frame hfa .nil)
  · exact (lookup_foldl_frame hfb _).trans ((lookup_insertSorted k v k _).trans (if_pos rfl))

/-- `lookup_struct` by position in the field list: `lookup_struct_get fs hnd (i := 2) rfl` -/
theorem lookup_struct_get (fs : List (Bytes × Option BVal)) (hnd : (fs.map (·.1)).Nodup) {i : Nat}
    {f : Bytes × Option BVal} (h : fs[i]? = some f) : (structDict fs).lookup f.1 = f.2 :=
  lookup_struct fs hnd f (List.mem_of_getElem? h)

/-- `≤`, not `=`: a later field of the same name replaces the earlier entry -/
theorem struct_length_le (fs : List (Bytes × Option BVal)) : (encode (.dict (structDict fs))).length ≤
    2 + ((present fs).map fun f => (encBytes f.1).length + (encode f.2).length).sum := by
  suffices ∀ (l : List (Bytes × BVal)) (d : BDict), (encodeDict (l.foldl (fun d f => insertSorted f.1 f.2 d) d)).length ≤
      (encodeDict d).length + (l.map fun f => (encBytes f.1).length + (encode f.2).length).sum by
    have := this (present fs) .nil
    simp only [encode, structDict, dictOfFields, List.length_append, List.length_cons, List.length_nil, encodeDict] at this ⊢
    omega
  intro l
  induction l with
  | nil => exact fun d => Nat.le_add_right ..
  | cons f t ih =>
    intro d
    have := ih (insertSorted f.1 f.2 d)
    have := encodeDict_insertSorted_length f.1 f.2 d
    simp only [List.foldl_cons, List.map_cons, List.sum_cons] at *
    omega

/-- what is asked of a struct's field names: distinct (`lookup_struct`), short enough for a key (`struct_fits`),
ASCII and hence text (`struct_keysUtf8`). Decidable: one evaluation per struct settles all three. -/
def FieldNames (ks : List Bytes) : Prop := ks.Nodup ∧ ∀ k ∈ ks, k.length < 2 ^ 64 ∧ ∀ x ∈ k, x < 128

instance (ks : List Bytes) : Decidable (FieldNames ks) := by unfold FieldNames; exact inferInstance

/-- rewrite with this before evaluating a fact about literal names (see `utf8_toList`) -/
theorem str_eq (s : String) : str s = s.toUTF8.data.toList := utf8_toList s

end Imdlv.Metainfo
