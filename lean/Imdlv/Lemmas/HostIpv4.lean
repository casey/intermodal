import Imdlv.Lemmas.HostPort
import Imdlv.Lemmas.HostDomain
/-!
# IPv4 text (C17)

The printed dotted form of any `m` splits at its dots into the decimal numerals of its four octets
(`split_showIpv4`), and the WHATWG IPv4 parser (`parseIpv4_showIpv4`) and the dotted-tail reader of
IPv6 literals (`ipv4Tail_showIpv4`) read those back.
-/
namespace Imdlv.HostPort

/-- What is particular to an octet: the WHATWG number parser reads its numeral as decimal (no
leading zero, so neither octal nor hexadecimal). -/
theorem octet_table : ∀ a, a < 256 → ipv4Number (natChars a) = some (some a) ∧
    ((natChars a).length == 1 || (natChars a).head? != some '0') = true := by decide +kernel

def octets (m : Nat) : List Nat := [m / 2 ^ 24 % 256, m / 2 ^ 16 % 256, m / 2 ^ 8 % 256, m % 256]

theorem octets_lt (m : Nat) : ∀ o ∈ octets m, o < 256 := by
  simp only [octets, List.mem_cons, List.not_mem_nil, or_false]
  rintro o (rfl | rfl | rfl | rfl) <;> exact Nat.mod_lt _ (by decide)

theorem octets_halves (m : Nat) : m / 2 ^ 24 % 256 * 256 + m / 2 ^ 16 % 256 = m / 65536 % 65536 ∧
    m / 2 ^ 8 % 256 * 256 + m % 256 = m % 65536 := by
  have pair (x : Nat) : x / 256 % 256 * 256 + x % 256 = x % (256 * 256) := by
    rw [Nat.mod_mul, Nat.mul_comm, Nat.add_comm]
  exact ⟨by rw [← pair (m / 65536), Nat.div_div_eq_div_mul], pair m⟩

theorem split_showIpv4 (m : Nat) : splitOnCh '.' (showIpv4 m) = (octets m).map natChars := by
  have dot (n : Nat) : (natChars n).contains '.' = false := contains_false_of_all (natChars_digits n).1 (by decide)
  simp only [showIpv4, List.append_assoc, List.cons_append, List.nil_append]
  rw [splitOnCh_eq, splitBy_append _ (dot _), splitBy_append _ (dot _), splitBy_append _ (dot _),
    splitBy_no_sep (dot _)]
  rfl

theorem showIpv4_lower (m : Nat) : (showIpv4 m).all isLdhLower = true := by
  have dig (n : Nat) : (natChars n).all isLdhLower = true :=
    List.all_eq_true.mpr fun c hc => lower_of_digit c (List.all_eq_true.mp (natChars_digits n).1 c hc)
  simp only [showIpv4, List.all_append, dig, List.all_cons, List.all_nil]
  decide

theorem showIpv4_isEmpty (m : Nat) : (showIpv4 m).isEmpty = false := by
  simp [showIpv4]

/-- the labels are decimal numerals, and a numeral holds no `x` -/
theorem showIpv4_no_xn (m : Nat) :
    (splitOnCh '.' (showIpv4 m)).any (fun l => l.take 4 == "xn--".toList) = false := by
  rw [split_showIpv4, List.any_map, List.any_eq_false]
  intro o _ h
  have hx : 'x' ∈ natChars o := List.mem_of_mem_take (by rw [eq_of_beq h]; decide)
  rw [← List.contains_iff_mem, contains_false_of_all (natChars_digits o).1 (by decide)] at hx
  cases hx

theorem endsInNumber_showIpv4 (m : Nat) : endsInNumber (showIpv4 m) = true := by
  unfold endsInNumber
  rw [split_showIpv4]
  simp [octets, natChars_ne_nil, (natChars_digits _).1]

/-- `parseIpv4` once every part has been read as a number: the last fills the bytes the front leaves -/
def ipv4Combine (vals : List Nat) : Option Nat :=
  if vals.getLast! ≥ 256 ^ (4 - vals.dropLast.length) then none
  else if vals.dropLast.any (· > 255) then none
  else some (vals.getLast! + (vals.dropLast.zipIdx.map fun (n, i) => n * 256 ^ (3 - i)).sum)

/-- `parseIpv4` after splitting at dots and dropping a trailing empty part -/
def parseIpv4P (parts : List (List Char)) : Option Nat :=
  if parts.length > 4 || parts.isEmpty then none else
  if (parts.map ipv4Number).any (fun n => match n with | some (some _) => false | _ => true) then none else
  ipv4Combine ((parts.map ipv4Number).filterMap fun n => n.join)

theorem parseIpv4_eq (s : List Char) : parseIpv4 s =
    parseIpv4P (if (splitOnCh '.' s).getLast? == some [] then (splitOnCh '.' s).dropLast else splitOnCh '.' s) := rfl

/-- Front parts below 256 and a last part below `256 ^ j` add up to less than the next power of 256.
With `k` parts consumed and `j` bytes left for the last, place `k` weighs `256 ^ (3 - k)`, which is
`256 ^ j` times 256 for each front part after it. -/
theorem weighted_lt {last j : Nat} (hlast : last < 256 ^ j) : ∀ (front : List Nat) (k : Nat),
    (∀ x ∈ front, x ≤ 255) → k + front.length + j = 4 →
    last + ((front.zipIdx k).map fun (n, i) => n * 256 ^ (3 - i)).sum < 256 ^ (j + front.length)
  | [], _, _, _ => hlast
  | x :: t, k, hf, hk => by
    rw [List.length_cons] at hk
    have ih := weighted_lt hlast t (k + 1) (fun y hy => hf y (List.mem_cons_of_mem _ hy)) (by omega)
    have hx := Nat.mul_le_mul_right (256 ^ (j + t.length)) (hf x List.mem_cons_self)
    rw [List.zipIdx_cons, List.map_cons, List.sum_cons]
    show last + (x * 256 ^ (3 - k) + _) < 256 ^ (j + t.length) * 256
    rw [show 3 - k = j + t.length by omega]
    calc _ = x * 256 ^ (j + t.length) + (last + _) := Nat.add_left_comm ..
      _ < 255 * 256 ^ (j + t.length) + 256 ^ (j + t.length) := Nat.add_lt_add_of_le_of_lt hx ih
      _ = 256 ^ (j + t.length) * 256 := by rw [← Nat.succ_mul, Nat.mul_comm]

theorem ipv4Combine_lt (vals : List Nat) (hl : vals.length ≤ 4) (n : Nat) (h : ipv4Combine vals = some n) :
    n < 2 ^ 32 := by
  obtain ⟨hlast, h⟩ := else_of_ite_eq h nofun
  obtain ⟨hfront, h⟩ := else_of_ite_eq h nofun
  injection h with h
  have hlen : vals.dropLast.length ≤ 4 := by rw [List.length_dropLast]; omega
  have := weighted_lt (Nat.not_le.mp hlast) vals.dropLast 0 (by simpa using hfront)
    (by rw [Nat.zero_add, Nat.add_sub_cancel' hlen])
  rw [Nat.sub_add_cancel hlen] at this
  exact h ▸ this

theorem parseIpv4_lt {s : List Char} {n : Nat} (h : parseIpv4 s = some n) : n < 2 ^ 32 := by
  rw [parseIpv4_eq] at h
  obtain ⟨hlen, h⟩ := else_of_ite_eq h nofun
  obtain ⟨_, h⟩ := else_of_ite_eq h nofun
  refine ipv4Combine_lt _ ?_ n h
  simp only [Bool.or_eq_true, decide_eq_true_eq, not_or, Nat.not_lt] at hlen
  exact Nat.le_trans (List.length_filterMap_le _ _) (by simpa using hlen.1)

theorem parseIpv4P_natChars (os : List Nat) (hlt : ∀ o ∈ os, o < 256) (hne : os ≠ []) (hlen : os.length ≤ 4) :
    parseIpv4P (os.map natChars) = ipv4Combine os := by
  have hnum : (os.map natChars).map ipv4Number = os.map fun o => some (some o) := by
    rw [List.map_map]
    exact List.map_congr_left fun o ho => (octet_table o (hlt o ho)).1
  unfold parseIpv4P
  rw [hnum, if_neg (by simp [hne]; omega), if_neg (by simp)]
  simp [List.filterMap_map, Function.comp_def]

theorem ipv4Combine_four {a b c d : Nat} (ha : a < 256) (hb : b < 256) (hc : c < 256) (hd : d < 256) :
    ipv4Combine [a, b, c, d] = some ((a * 256 + b) * 65536 + (c * 256 + d)) := by
  have h1 : ¬ [a, b, c, d].getLast! ≥ 256 ^ (4 - [a, b, c, d].dropLast.length) := Nat.not_le.mpr hd
  have h2 : ¬ [a, b, c, d].dropLast.any (· > 255) = true := by simp; omega
  rw [ipv4Combine, if_neg h1, if_neg h2]
  show some (d + ([(a, 0), (b, 1), (c, 2)].map _).sum) = _
  -- `rw`, not `simp` or `show`: left to find `x * 65536 + 0 = x * 65536` by `rfl`, the kernel unfolds the
  -- multiplication 65536 times
  rw [List.map_cons, List.map_cons, List.map_cons, List.map_nil, List.sum_cons, List.sum_cons, List.sum_cons,
    List.sum_nil]
  show some (d + (a * 16777216 + (b * 65536 + (c * 256 + 0)))) = _
  congr 1
  omega

theorem ipv4Combine_octets (m : Nat) (hm : m < 2 ^ 32) : ipv4Combine (octets m) = some m := by
  have lt (x : Nat) : x % 256 < 256 := Nat.mod_lt x (by decide)
  rw [octets, ipv4Combine_four (lt _) (lt _) (lt _) (lt _), (octets_halves m).1, (octets_halves m).2,
    Nat.mod_eq_of_lt (Nat.div_lt_of_lt_mul (n := 65536) (k := 65536) hm), Nat.div_add_mod']

theorem parseIpv4_showIpv4 (m : Nat) (hm : m < 2 ^ 32) : parseIpv4 (showIpv4 m) = some m := by
  rw [parseIpv4_eq, split_showIpv4, if_neg (by simp [octets, natChars_ne_nil]),
    parseIpv4P_natChars _ (octets_lt m) (by simp [octets]) (by simp [octets]), ipv4Combine_octets m hm]

def tailPart (p : List Char) : Bool :=
  !p.isEmpty && p.all isDigitCh && (p.length == 1 || p.head? != some '0') && digitsVal p ≤ 255

theorem ipv4Tail_eq (g : List Char) : ipv4Tail g =
    if (splitOnCh '.' g).length != 4 then none else
    if (splitOnCh '.' g).all tailPart then
      match (splitOnCh '.' g).map digitsVal with
      | [a, b, c, d] => some (a * 256 + b, c * 256 + d)
      | _ => none
    else none := rfl

theorem ipv4Tail_showIpv4 (m : Nat) : ipv4Tail (showIpv4 m) = some (m / 65536 % 65536, m % 65536) := by
  have part : ∀ o ∈ octets m, tailPart (natChars o) = true := fun o ho => by
    simp [tailPart, natChars_ne_nil, natChars_digits, (octet_table o (octets_lt m o ho)).2,
      Nat.le_of_lt_succ (octets_lt m o ho)]
  have hall : ((octets m).map natChars).all tailPart = true := by simpa [List.all_map] using part
  rw [ipv4Tail_eq, split_showIpv4, if_neg (by simp [octets]), if_pos hall, List.map_map,
    ← (octets_halves m).1, ← (octets_halves m).2]
  simp [octets, natChars_digits]

theorem ipv4Tail_lt {g : List Char} {a b : Nat} (h : ipv4Tail g = some (a, b)) : a < 65536 ∧ b < 65536 := by
  rw [ipv4Tail_eq] at h
  obtain ⟨_, h⟩ := else_of_ite_eq h nofun
  obtain ⟨hall, h⟩ := then_of_ite_eq h nofun
  have hb : ∀ v ∈ (splitOnCh '.' g).map digitsVal, v ≤ 255 := by
    intro v hv
    obtain ⟨p, hp, rfl⟩ := List.mem_map.mp hv
    have := List.all_eq_true.mp hall p hp
    simp only [tailPart, Bool.and_eq_true, decide_eq_true_eq] at this
    exact this.2
  match hv : (splitOnCh '.' g).map digitsVal, h with
  | [a0, b0, c0, d0], h =>
    rw [hv] at hb
    cases h
    have := hb a0 (by simp); have := hb b0 (by simp); have := hb c0 (by simp); have := hb d0 (by simp)
    omega

end Imdlv.HostPort
