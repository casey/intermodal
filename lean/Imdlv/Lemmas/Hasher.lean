import Imdlv.Model.Hasher
import Imdlv.Lemmas.Basic
/-! The read loop of the hasher: whatever the read schedule, the blocks hashed are the
`chunks` of the bytes consumed (`hashFiles_eq`, `hashStdin_eq`: C01; used by C02, C03). The state is
always closed full blocks and a short open one (`Inv`), which one read that fits the window keeps
(`Inv.read`). -/
namespace Imdlv.Hasher

theorem takeN_bounds (w k a : Nat) (hw : 0 < w) (ha : 0 < a) :
    takeN w k a ≤ w ∧ takeN w k a ≤ a ∧ 0 < takeN w k a :=
  ⟨Nat.max_le.mpr ⟨hw, Nat.le_trans (Nat.min_le_left ..) (Nat.min_le_right ..)⟩,
    Nat.max_le.mpr ⟨ha, Nat.min_le_right ..⟩, Nat.le_max_left ..⟩

def Inv (p : Nat) (s : St) (consumed : Bytes) : Prop :=
  s.pieces.flatten ++ s.open_ = consumed ∧ (∀ b ∈ s.pieces, b.length = p) ∧ s.open_.length < p

theorem Inv.init (p : Nat) (hp : 0 < p) : Inv p St.init [] := by
  simp [Inv, St.init, hp]

theorem Inv.read {p : Nat} {s : St} {c : Bytes} (hI : Inv p s c) (rd : Bytes)
    (hrd : s.open_.length + rd.length ≤ p) :
    Inv p (if (s.open_ ++ rd).length = p then { open_ := [], pieces := s.pieces ++ [s.open_ ++ rd] }
      else { s with open_ := s.open_ ++ rd }) (c ++ rd) := by
  obtain ⟨rfl, h2, h3⟩ := hI
  rw [List.length_append]
  split
  next hfull =>
    refine ⟨by simp, fun b hb => ?_, Nat.zero_lt_of_lt h3⟩
    rcases List.mem_append.mp hb with hb | hb
    · exact h2 b hb
    · rw [List.mem_singleton.mp hb, List.length_append, hfull]
  next hfull => exact ⟨by simp, h2, by simp only [List.length_append]; omega⟩

theorem readLoop_inv (p : Nat) (s : St) (data : Bytes) (sched : List Nat)
    (consumed : Bytes) (hI : Inv p s consumed) :
    Inv p (readLoop p s data sched).1 (consumed ++ data) ∧ (readLoop p s data sched).2 = data := by
  induction s, data, sched using readLoop.induct p generalizing consumed with
  | case1 s data sched w h =>
    obtain rfl : data = [] := h.resolve_left (Nat.sub_ne_zero_of_lt hI.2.2)
    rw [readLoop, dif_pos h]
    exact ⟨by rwa [List.append_nil], rfl⟩
  | case2 s data sched w h k n rd open' s' ih =>
    have hn : n ≤ w :=
      (takeN_bounds w k data.length (Nat.pos_of_ne_zero fun e => h (.inl e))
        (List.length_pos_iff.mpr fun e => h (.inr e))).1
    have hrd : s.open_.length + rd.length ≤ p := by
      have : rd.length ≤ n := List.length_take_le n data
      omega
    obtain ⟨hr1, hr2⟩ := ih (consumed ++ rd) (hI.read rd hrd)
    rw [readLoop, dif_neg h]
    rw [List.append_assoc, List.take_append_drop] at hr1
    exact ⟨hr1, (congrArg (rd ++ ·) hr2).trans (List.take_append_drop n data)⟩

theorem hashStreams_inv (p : Nat) (fs : List (Bytes × List Nat)) (s : St) (consumed : Bytes)
    (hI : Inv p s consumed) :
    Inv p (hashStreams p s fs).1 (consumed ++ (fs.map Prod.fst).flatten) ∧
      (hashStreams p s fs).2 = fs.map Prod.fst := by
  induction fs generalizing s consumed with
  | nil => simpa [hashStreams] using hI
  | cons f t ih =>
    obtain ⟨h1, h2⟩ := readLoop_inv p s f.1 f.2 consumed hI
    obtain ⟨h3, h4⟩ := ih _ _ h1
    rw [List.append_assoc] at h3
    exact ⟨h3, congr (congrArg List.cons h2) h4⟩

theorem finish_eq_chunks {p : Nat} {s : St} {consumed : Bytes} (h : Inv p s consumed) :
    finish s = chunks p consumed := by
  obtain ⟨rfl, h2, h3⟩ := h
  rw [chunks_flatten_append p (by omega) _ _ h2, finish]
  split
  next ho => rw [chunks_short p _ (by omega) (List.ne_nil_of_length_pos ho)]
  next ho => rw [List.eq_nil_of_length_eq_zero (by omega : s.open_.length = 0), chunks_nil, List.append_nil]

theorem hashFiles_eq (p : Nat) (hp : 0 < p) (fs : List (Bytes × List Nat)) :
    hashFiles p fs = (chunks p (fs.map Prod.fst).flatten, fs.map Prod.fst) := by
  obtain ⟨h1, h2⟩ := hashStreams_inv p fs St.init [] (Inv.init p hp)
  exact Prod.ext (finish_eq_chunks h1) h2

theorem hashStdin_eq (p : Nat) (hp : 0 < p) (d : Bytes) (sch : List Nat) :
    hashStdin p d sch = (chunks p d, d) := by
  obtain ⟨h1, h2⟩ := readLoop_inv p St.init d sch [] (Inv.init p hp)
  exact Prod.ext (finish_eq_chunks h1) h2

end Imdlv.Hasher
