import Imdlv.Lemmas.Bencode
/-!
# Completeness of the strict decoder on canonical values

The converse of `decode_sound` (Lemmas/Bencode): every well-formed value (`WF`) within the nesting limit is decoded
back from its encoding, whatever follows it (`decode_complete`). So an encoding has exactly one well-formed reading
(`encode_injective`).
-/
namespace Imdlv.Bencode

mutual
def nestingOf : BVal → Nat
  | .int _ _ => 0
  | .bytes _ => 0
  | .list l => nestingOfList l + 1
  | .dict d => nestingOfDict d + 1
def nestingOfList : BList → Nat
  | .nil => 0
  | .cons v t => max (nestingOf v) (nestingOfList t)
def nestingOfDict : BDict → Nat
  | .nil => 0
  | .cons _ v t => max (nestingOf v) (nestingOfDict t)
end

mutual
/-- what bendy can represent: `i64` integers (no `-0`), `usize` string lengths, strictly ascending keys -/
def WF : BVal → Bool
  | .int neg n => inI64 neg n && !(neg && n == 0)
  | .bytes b => decide (b.length < 2 ^ 64)
  | .list l => WFList l
  | .dict d => WFDict none d
def WFList : BList → Bool
  | .nil => true
  | .cons v t => WF v && WFList t
def WFDict : Option Bytes → BDict → Bool
  | _, .nil => true
  | last, .cons k v t => keyOk last k && decide (k.length < 2 ^ 64) && WF v && WFDict (some k) t
end

theorem endTok_encode (v : BVal) (r : Bytes) : endTok (encode v ++ r) = none := by
  cases v with
  | bytes b => exact (tok_encBytes b r).2
  | _ => rfl

theorem encode_length_ge (v : BVal) : 2 ≤ (encode v).length := by
  cases v with
  | bytes b =>
    rw [encode_bytes, encBytes, List.length_append, List.length_append]
    exact Nat.le_trans (Nat.succ_le_succ (List.length_pos_iff.mpr (natDigits_ne_nil _))) (Nat.le_add_right _ _)
  | _ =>
    -- a leading byte, a body and the closing `e`
    simp only [encode_int, encode_list, encode_dict, List.length_cons, List.length_append]
    exact Nat.succ_le_succ (Nat.le_add_left 1 _)

/-- the fuel that suffices for a sequence suffices for its first element (of at least two bytes, after a key of
`c` bytes) and for the rest -/
theorem fuel_cons {c a b f : Nat} (ha : 2 ≤ a) (h : c + a + b + 1 ≤ f + 1) : a ≤ f ∧ b + 1 ≤ f := by omega

theorem decode_complete : ∀ (fuel : Nat),
    (∀ v depth r, WF v = true → nestingOf v ≤ depth → (encode v).length ≤ fuel →
      decode fuel depth (encode v ++ r) = some (v, r)) ∧
    (∀ l depth r, WFList l = true → nestingOfList l ≤ depth → (encodeList l).length + 1 ≤ fuel →
      decodeList fuel depth (encodeList l ++ [101] ++ r) = some (l, r)) ∧
    (∀ d depth last r, WFDict last d = true → nestingOfDict d ≤ depth → (encodeDict d).length + 1 ≤ fuel →
      decodeDict fuel depth last (encodeDict d ++ [101] ++ r) = some (d, r)) := by
  intro fuel
  induction fuel with
  | zero =>
    refine ⟨fun v _ _ _ _ h => ?_, fun _ _ _ _ _ h => absurd h (Nat.not_succ_le_zero _),
      fun _ _ _ _ _ _ h => absurd h (Nat.not_succ_le_zero _)⟩
    exact absurd (Nat.le_trans (encode_length_ge v) h) (by decide)
  | succ f ih =>
    obtain ⟨ih1, ih2, ih3⟩ := ih
    refine ⟨fun v depth r hwf hn hlen => ?_, fun l depth r hwf hn hlen => ?_, fun d depth last r hwf hn hlen => ?_⟩
    · cases v with
      | int neg n =>
        rw [WF, Bool.and_eq_true] at hwf
        rw [encode_int, List.cons_append, decode_int rfl, decInt_complete neg n r ((Bool.not_eq_true' _).mp hwf.2),
          Option.bind_some, if_pos hwf.1]
      | bytes b =>
        rw [encode_bytes, decode_other (tok_encBytes b r).1, decBytes_complete b r (of_decide_eq_true hwf)]; rfl
      | list x =>
        rw [encode_list, List.length_cons, List.length_append] at hlen
        rw [encode_list, List.cons_append, decode_list rfl, if_neg (Nat.ne_of_gt (Nat.zero_lt_of_lt hn)),
          ih2 x (depth - 1) r hwf (Nat.le_sub_one_of_lt hn) (Nat.le_of_succ_le_succ hlen)]; rfl
      | dict x =>
        rw [encode_dict, List.length_cons, List.length_append] at hlen
        rw [encode_dict, List.cons_append, decode_dict rfl, if_neg (Nat.ne_of_gt (Nat.zero_lt_of_lt hn)),
          ih3 x (depth - 1) none r hwf (Nat.le_sub_one_of_lt hn) (Nat.le_of_succ_le_succ hlen)]; rfl
    · cases l with
      | nil => rfl
      | cons v t =>
        rw [WFList, Bool.and_eq_true] at hwf
        rw [nestingOfList, Nat.max_le] at hn
        rw [encodeList, List.length_append] at hlen
        obtain ⟨hf1, hf2⟩ := fuel_cons (c := 0) (encode_length_ge v) (by rwa [Nat.zero_add])
        have e : encodeList (.cons v t) ++ [101] ++ r = encode v ++ (encodeList t ++ [101] ++ r) := by
          simp [encodeList]
        rw [e, decodeList_cons (endTok_encode v _), ih1 v depth _ hwf.1 hn.1 hf1, Option.bind_some,
          ih2 t depth r hwf.2 hn.2 hf2]; rfl
    · cases d with
      | nil => rfl
      | cons k v t =>
        simp only [WFDict, Bool.and_eq_true, decide_eq_true_eq] at hwf
        obtain ⟨⟨⟨hk, hklen⟩, hv⟩, ht⟩ := hwf
        rw [nestingOfDict, Nat.max_le] at hn
        rw [encodeDict, List.length_append, List.length_append] at hlen
        obtain ⟨hf1, hf2⟩ := fuel_cons (encode_length_ge v) hlen
        have e : encodeDict (.cons k v t) ++ [101] ++ r = encBytes k ++ (encode v ++ (encodeDict t ++ [101] ++ r)) := by
          simp [encodeDict]
        rw [e, decodeDict_cons (tok_encBytes k _).2, decBytes_complete k _ hklen, Option.bind_some, if_pos hk,
          ih1 v depth _ hv hn.1 hf1, Option.bind_some, ih3 t depth (some k) r ht hn.2 hf2]; rfl

theorem decodeTop_complete (v : BVal) (depth : Nat) (r : Bytes) (hwf : WF v = true) (hn : nestingOf v ≤ depth) :
    decodeTop depth (encode v ++ r) = some (v, r) :=
  (decode_complete _).1 v depth r hwf hn (by rw [List.length_append, Nat.add_assoc]; exact Nat.le_add_right _ _)

theorem encode_injective (v w : BVal) (hv : WF v = true) (hw : WF w = true) (h : encode v = encode w) : v = w := by
  have a := decodeTop_complete v (max (nestingOf v) (nestingOf w)) [] hv (Nat.le_max_left _ _)
  have b := decodeTop_complete w (max (nestingOf v) (nestingOf w)) [] hw (Nat.le_max_right _ _)
  rw [h, b] at a
  exact (Prod.mk.inj (Option.some.inj a)).1.symm

end Imdlv.Bencode
