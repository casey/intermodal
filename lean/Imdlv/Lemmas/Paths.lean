import Imdlv.Model.Paths
import Imdlv.Lemmas.Basic
/-!
# Lemmas about the path algebra (`Imdlv.Model.Paths`)

The loop of `lexiclean` is a left fold of `stepR` over a stack. Two families of stacks are closed
under it: *relative* ones (`relSt`: names on top of `k` parents) and *absolute* ones (`absSt`: names on
top of the root, where a further `..` is dropped). `run_rel_abs` keeps the two in step, so the normal
form of a relative path tells what the path does on top of any absolute stack.

`Env::resolve` is read through the stack it ends on (`resolve_eq`). On stacks, joining a relative path
runs the loop on and cleaning changes nothing, for every path that is relative or `/` followed by a
relative one (`InputShape`); relative and absolute input are told apart here only.
-/
namespace Imdlv.Paths

def nm (l : List Bytes) : CPath := l.map PC.normal

/-- canonical relative stack (top first) -/
def relSt (ns : List Bytes) (k : Nat) : CPath := nm ns ++ List.replicate k PC.parent
/-- canonical absolute stack (top first) -/
def absSt (ms : List Bytes) : CPath := nm ms ++ [PC.root]

/-- no root component (a path that does not start at `/`) -/
def Rel (x : CPath) : Prop := ∀ c ∈ x, c ≠ PC.root

@[simp] theorem rel_nil : Rel [] := by intro c h; cases h
@[simp] theorem rel_cons {c : PC} {x : CPath} : Rel (c :: x) ↔ c ≠ PC.root ∧ Rel x :=
  List.forall_mem_cons
@[simp] theorem rel_append {x y : CPath} : Rel (x ++ y) ↔ Rel x ∧ Rel y :=
  List.forall_mem_append
@[simp] theorem rel_reverse {x : CPath} : Rel x.reverse ↔ Rel x := by
  simp only [Rel, List.mem_reverse]
@[simp] theorem rel_nm (l : List Bytes) : Rel (nm l) := fun c hc => by
  obtain ⟨_, _, rfl⟩ := List.mem_map.mp hc; nofun
theorem rel_filter {x : CPath} (h : Rel x) (p : PC → Bool) : Rel (x.filter p) := by
  intro c hc; exact h c (List.mem_filter.mp hc).1

@[simp] theorem run_nil (st : CPath) : run st [] = st := rfl
@[simp] theorem run_cons (st : CPath) (c : PC) (x : CPath) : run st (c :: x) = run (stepR st c) x := rfl
theorem run_append (st : CPath) (x y : CPath) : run st (x ++ y) = run (run st x) y :=
  List.foldl_append

@[simp] theorem stepR_cur (st : CPath) : stepR st .cur = st := rfl
@[simp] theorem stepR_normal (st : CPath) (a : Bytes) : stepR st (.normal a) = .normal a :: st := rfl
@[simp] theorem stepR_root (st : CPath) : stepR st .root = .root :: st := rfl
@[simp] theorem stepR_parent_normal (a : Bytes) (st : CPath) : stepR (.normal a :: st) .parent = st := rfl

theorem stepR_parents (k : Nat) : stepR (List.replicate k PC.parent) .parent = List.replicate (k + 1) PC.parent := by
  cases k <;> rfl

theorem stepR_abs_parent (l : List Bytes) : stepR (absSt l) .parent = absSt (l.drop 1) := by
  cases l <;> rfl

/-- the loop adds nothing of its own, and never keeps a `.` -/
theorem mem_stepR {c d : PC} {st : CPath} (h : c ∈ stepR st d) : c ∈ st ∨ c = d ∧ c ≠ .cur := by
  unfold stepR at h
  split at h
  · exact .inl h
  · split at h
    · exact .inl (List.mem_cons_of_mem _ h)
    · rcases List.mem_cons.mp h with rfl | h
      · exact .inr ⟨rfl, nofun⟩
      · exact .inl h
    · rw [List.mem_singleton.mp h]; exact .inr ⟨rfl, nofun⟩
    · exact .inl h
  · rcases List.mem_cons.mp h with rfl | h
    · exact .inr ⟨rfl, by assumption⟩
    · exact .inl h

theorem mem_run_ne_cur (x st : CPath) (c : PC) (h : c ∈ run st x) : c ∈ st ∨ c ∈ x ∧ c ≠ .cur := by
  induction x generalizing st with
  | nil => exact .inl h
  | cons d x ih =>
    rcases ih _ h with h | ⟨h, hc⟩
    · exact (mem_stepR h).imp id fun ⟨e, hc⟩ => ⟨e ▸ List.mem_cons_self, hc⟩
    · exact .inr ⟨List.mem_cons_of_mem _ h, hc⟩

theorem mem_run : ∀ (x : CPath) (st : CPath) (c : PC), c ∈ run st x → c ∈ st ∨ c ∈ x :=
  fun x st c h => (mem_run_ne_cur x st c h).imp id And.left

theorem stepR_rel_abs (c : PC) (hc : c ≠ .root) (ns : List Bytes) (k : Nat) :
    ∃ ns' k', stepR (relSt ns k) c = relSt ns' k' ∧
      ∀ ms : List Bytes, stepR (absSt (ns ++ ms.drop k)) c = absSt (ns' ++ ms.drop k') := by
  cases c with
  | root => exact absurd rfl hc
  | cur => exact ⟨ns, k, rfl, fun _ => rfl⟩
  | normal a => exact ⟨a :: ns, k, rfl, fun _ => rfl⟩
  | parent =>
    cases ns with
    | cons n ns1 => exact ⟨ns1, k, rfl, fun _ => rfl⟩
    | nil => exact ⟨[], k + 1, stepR_parents k, fun ms => by
        rw [List.nil_append, stepR_abs_parent, List.drop_drop]; rfl⟩

theorem run_rel_abs (x : CPath) (hx : Rel x) : ∀ (ns : List Bytes) (k : Nat),
    ∃ ns' k', run (relSt ns k) x = relSt ns' k' ∧
      ∀ ms : List Bytes, run (absSt (ns ++ ms.drop k)) x = absSt (ns' ++ ms.drop k') := by
  induction x with
  | nil => intro ns k; exact ⟨ns, k, rfl, fun _ => rfl⟩
  | cons c x ih =>
    intro ns k
    rw [rel_cons] at hx
    obtain ⟨ns1, k1, h1, h2⟩ := stepR_rel_abs c hx.1 ns k
    obtain ⟨ns2, k2, h3, h4⟩ := ih hx.2 ns1 k1
    exact ⟨ns2, k2, by rw [run_cons, h1, h3], fun ms => by rw [run_cons, h2, h4]⟩

theorem run_rel (x : CPath) (hx : Rel x) :
    ∃ ns k, run [] x = relSt ns k ∧ ∀ ms : List Bytes, run (absSt ms) x = absSt (ns ++ ms.drop k) :=
  run_rel_abs x hx [] 0

theorem run_absSt {x : CPath} (hx : Rel x) (ms : List Bytes) : ∃ l, run (absSt ms) x = absSt l :=
  let ⟨_, _, _, h⟩ := run_rel x hx; ⟨_, h ms⟩

theorem run_filter_cur (x : CPath) : ∀ st : CPath, run st (x.filter notCur) = run st x := by
  induction x with
  | nil => intro st; rfl
  | cons c x ih => intro st; cases c <;> exact ih _

/-! What `lexiclean` returns is a stack reversed. Run as a path again, it rebuilds that stack on top of
whatever is there: the names are pushed, the parents act on what lies below. -/

theorem nm_reverse (l : List Bytes) : nm l.reverse = (nm l).reverse := List.map_reverse

theorem nm_append (a b : List Bytes) : nm (a ++ b) = nm a ++ nm b := List.map_append

theorem absSt_append (a b : List Bytes) : absSt (a ++ b) = nm a ++ absSt b := by
  rw [absSt, nm_append, List.append_assoc]; rfl

theorem run_nm_reverse (st : CPath) (l : List Bytes) : run st (nm l).reverse = nm l ++ st := by
  induction l with
  | nil => rfl
  | cons a l ih => rw [nm, List.map_cons, List.reverse_cons, run_append, ← nm, ih]; rfl

theorem run_nil_parents (k : Nat) : run [] (List.replicate k PC.parent) = List.replicate k PC.parent := by
  induction k with
  | zero => rfl
  | succ k ih => rw [List.replicate_succ', run_append, ih, ← List.replicate_succ']; exact stepR_parents k

theorem run_abs_parents (k : Nat) (ms : List Bytes) :
    run (absSt ms) (List.replicate k PC.parent) = absSt (ms.drop k) := by
  induction k with
  | zero => rfl
  | succ k ih => rw [List.replicate_succ', run_append, ih]; exact (stepR_abs_parent _).trans (by rw [List.drop_drop])

theorem absSt_reverse (l : List Bytes) : (absSt l).reverse = PC.root :: (nm l).reverse := by
  simp [absSt]

theorem run_relSt_reverse (st : CPath) (ns : List Bytes) (k : Nat) :
    run st (relSt ns k).reverse = nm ns ++ run st (List.replicate k PC.parent) := by
  rw [relSt, List.reverse_append, List.reverse_replicate, run_append, run_nm_reverse]

theorem run_nil_relSt_reverse (ns : List Bytes) (k : Nat) : run [] (relSt ns k).reverse = relSt ns k := by
  rw [run_relSt_reverse, run_nil_parents]; rfl

theorem run_cwd (cs : List Bytes) : run [] (.root :: nm cs) = absSt cs.reverse := by
  have h := run_nm_reverse [.root] cs.reverse
  rw [nm_reverse, List.reverse_reverse] at h
  rw [absSt, nm_reverse]; exact h

/-- the early return of `lexiclean` matters for `.` alone -/
theorem lexiclean_eq_run {x : CPath} (h : x ≠ [.cur]) : lexiclean x = (run [] x).reverse := by
  unfold lexiclean
  split
  · match x with
    | [] => rfl
    | [c] => cases c <;> first | rfl | exact absurd rfl h
    | _ :: _ :: _ => rename_i hl; simp at hl
  · rfl

theorem mem_lexiclean {x : CPath} {c : PC} (h : c ∈ lexiclean x) : c ∈ x := by
  unfold lexiclean at h
  split at h
  · exact h
  · exact (mem_run x [] c (List.mem_reverse.mp h)).resolve_left nofun

theorem rel_lexiclean {x : CPath} (hx : Rel x) : Rel (lexiclean x) :=
  fun c hc => hx c (mem_lexiclean hc)

theorem cur_not_mem_lexiclean {x : CPath} (h : x ≠ [.cur]) : PC.cur ∉ lexiclean x := by
  rw [lexiclean_eq_run h, List.mem_reverse]
  exact fun hm => ((mem_run_ne_cur x [] _ hm).resolve_left nofun).2 rfl

/-- cleaning a relative path first, or only after it has been put behind a directory, is the same -/
theorem run_abs_lexiclean (x : CPath) (hx : Rel x) (ms : List Bytes) :
    run (absSt ms) (lexiclean x) = run (absSt ms) x := by
  by_cases h : x = [.cur]
  · rw [h]; rfl
  · obtain ⟨ns, k, h1, h2⟩ := run_rel x hx
    rw [lexiclean_eq_run h, h1, h2, run_relSt_reverse, run_abs_parents, absSt_append]

theorem lexiclean_root {r : CPath} (hr : Rel r) :
    ∃ l, run (absSt []) r = absSt l ∧ lexiclean (.root :: r) = .root :: (nm l).reverse := by
  obtain ⟨l, e⟩ := run_absSt hr []
  exact ⟨l, e, by rw [lexiclean_eq_run (by simp), ← absSt_reverse, ← e]; rfl⟩

theorem joinC_rel {a b : CPath} (hb : Rel b) : joinC a b = if a = [] then b else a ++ b.filter notCur := by
  cases b with
  | nil => rfl
  | cons c b => cases c <;> first | rfl | exact absurd rfl (rel_cons.mp hb).1

theorem joinC_single_normal (a : CPath) (s : Bytes) : joinC a [.normal s] = a ++ [.normal s] := by
  cases a <;> rfl

theorem joinC_single_parent (a : CPath) : joinC a [.parent] = a ++ [.parent] := by
  cases a <;> rfl

theorem mem_joinC {a b : CPath} {c : PC} (h : c ∈ joinC a b) : c ∈ a ∨ c ∈ b := by
  unfold joinC at h
  split at h
  · exact .inr h
  · split at h
    · exact .inr h
    · exact (List.mem_append.mp h).imp id fun h => (List.mem_filter.mp h).1

theorem createDefaultOutput_some {cwd input out : CPath} (h : createDefaultOutput cwd input = some out) :
    ∃ n, fileName (resolve cwd input) = some n ∧ out = torrentPath input [.normal (n ++ dotTorrent)] := by
  unfold createDefaultOutput at h
  split at h
  · next n hn => exact ⟨n, hn, (Option.some.inj h).symm⟩
  · cases h

end Imdlv.Paths

namespace Imdlv.C02
open Imdlv Imdlv.Paths

/-- the shape of every parsed path (`C02.comps_shape`): a root in front at most -/
def InputShape (input : CPath) : Prop := Rel input ∨ ∃ r, input = PC.root :: r ∧ Rel r

variable {p y : CPath}

theorem InputShape.append (h : InputShape p) (hy : Rel y) : InputShape (p ++ y) :=
  h.elim (fun h => .inl (rel_append.mpr ⟨h, hy⟩))
    fun ⟨r, e, hr⟩ => .inr ⟨r ++ y, e ▸ rfl, rel_append.mpr ⟨hr, hy⟩⟩

theorem InputShape.joinC (h : InputShape p) (hy : Rel y) : InputShape (joinC p y) := by
  rw [joinC_rel hy]; split
  · exact .inl hy
  · exact h.append (rel_filter hy _)

theorem InputShape.lexiclean (h : InputShape p) : InputShape (lexiclean p) := by
  rcases h with h | ⟨r, rfl, hr⟩
  · exact .inl (rel_lexiclean h)
  · obtain ⟨l, -, e⟩ := lexiclean_root hr
    exact .inr ⟨_, e, rel_reverse.mpr (rel_nm l)⟩

theorem InputShape.torrentPath (h : InputShape p) (hy : Rel y) : InputShape (torrentPath p y) :=
  (h.joinC (by simp)).lexiclean.joinC hy

end Imdlv.C02

namespace Imdlv.Paths
open C02 (InputShape)
variable (cs : List Bytes) {p y : CPath}

/-- the stack on which the loop ends when `p` is resolved in the directory `/cs` -/
def stack (p : CPath) : CPath := run [] (joinC (.root :: nm cs) p)

theorem resolve_eq (p : CPath) : resolve (.root :: nm cs) p = (stack cs p).reverse :=
  lexiclean_eq_run (by unfold joinC; split <;> simp)

theorem stack_of_fileName {n : Bytes} (h : fileName (resolve (.root :: nm cs) p) = some n) :
    ∃ rest, stack cs p = .normal n :: rest := by
  rw [resolve_eq, fileName, List.getLast?_reverse] at h
  -- only a name on top of the stack is a file name
  match stack cs p, h with
  | .normal _ :: rest, h => exact ⟨rest, by simp at h; rw [h]⟩

theorem stack_rel (hp : Rel p) : stack cs p = run (absSt cs.reverse) p := by
  rw [stack, joinC_rel hp, if_neg nofun, run_append, run_filter_cur, run_cwd]

theorem stack_root (r : CPath) : stack cs (.root :: r) = run (absSt []) r := rfl

/-- what `resolve` returns, resolved again, ends on the same stack -/
theorem stack_absSt_reverse (l : List Bytes) : stack cs (absSt l).reverse = absSt l := by
  rw [absSt_reverse, stack_root]; exact run_nm_reverse [.root] l

theorem stack_absSt (h : InputShape p) : ∃ l, stack cs p = absSt l := by
  rcases h with h | ⟨r, rfl, hr⟩
  · rw [stack_rel cs h]; exact run_absSt h _
  · exact run_absSt hr []

theorem stack_append (h : InputShape p) (hy : Rel y) : stack cs (p ++ y) = run (stack cs p) y := by
  rcases h with h | ⟨r, rfl, hr⟩
  · rw [stack_rel cs (rel_append.mpr ⟨h, hy⟩), stack_rel cs h, run_append]
  · exact run_append _ r y

theorem stack_joinC (h : InputShape p) (hy : Rel y) : stack cs (joinC p y) = run (stack cs p) y := by
  rw [joinC_rel hy]; split
  · next e => rw [e, stack_rel cs hy, stack_rel cs rel_nil]; rfl
  · rw [stack_append cs h (rel_filter hy _), run_filter_cur]

theorem stack_lexiclean (h : InputShape p) : stack cs (lexiclean p) = stack cs p := by
  rcases h with h | ⟨r, rfl, hr⟩
  · rw [stack_rel cs (rel_lexiclean h), stack_rel cs h, run_abs_lexiclean _ h]
  · obtain ⟨l, e, e'⟩ := lexiclean_root hr
    rw [e', ← absSt_reverse, stack_absSt_reverse, stack_root, e]

/-- `torrent_path`: one `..` from the input, then the name -/
theorem stack_torrentPath (h : InputShape p) (hy : Rel y) :
    stack cs (torrentPath p y) = run (stepR (stack cs p) .parent) y := by
  have hp := h.joinC (y := [.parent]) (by simp)
  rw [torrentPath, stack_joinC cs hp.lexiclean hy, stack_lexiclean cs hp, stack_joinC cs h (by simp)]; rfl

/-- the default content root of `verify`: one `..` from the torrent, then the name -/
theorem stack_contentRoot (h : InputShape p) (hy : Rel y) :
    stack cs (contentRoot none none (some p) y) = run (stepR (stack cs p) .parent) y := by
  have hp := h.joinC (y := [.parent]) (by simp)
  rw [contentRoot, stack_lexiclean cs (hp.joinC hy), stack_joinC cs hp hy, stack_joinC cs h (by simp)]; rfl

end Imdlv.Paths
