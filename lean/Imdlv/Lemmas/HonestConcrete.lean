import Imdlv.Lemmas.TypedRoundTrip
/-!
# The concrete serde/bendy readers understand an honest peer's messages

The extension handshake `d1:md11:ut_metadatai<k>ee13:metadata_sizei<n>ee` and the data header
`d8:msg_typei1e5:piecei<k>e10:total_sizei<n>ee` followed by the piece bytes, as written by any
canonical bencode encoder, are read by `readHandshakeC` / `readUtMsgC` as what they say; the header's
re-encoded length is exactly where the piece data starts.
-/
namespace Imdlv.Peer
open Imdlv Imdlv.Bencode Imdlv.Metainfo

theorem typedOk_absent {d : BDict} {key : String} (ok : BVal → Bool) (h : d.lookup (str key) = none) :
    typedOk d key ok = true := by rw [typedOk, h]

theorem typedOk_of {d : BDict} {key : String} {ok : BVal → Bool} {v : BVal} (h : d.lookup (str key) = some v) :
    typedOk d key ok = ok v := by rw [typedOk, h]

theorem isNatBelow_bnat {b n : Nat} (h : n < b) : isNatBelow b (bnat n) = true := decide_eq_true h

def mDict (k : Nat) : BDict := dictOfFields (present [(str "ut_metadata", some (bnat k))])

def hsFields (k n : Nat) : List (Bytes × Option BVal) :=
  [(str "m", some (.dict (mDict k))), (str "metadata_size", some (bnat n))]

def hsDict (k n : Nat) : BDict := dictOfFields (present (hsFields k n))

def hsBodyOf (k n : Nat) : Bytes := encode (.dict (hsDict k n))

theorem m_names : FieldNames [str "ut_metadata"] := by simp only [str_eq]; decide +kernel
theorem hs_names : FieldNames [str "m", str "metadata_size"] := by simp only [str_eq]; decide +kernel
theorem hs_absent : ∀ k ∈ ["p", "v", "yourip", "ipv6", "ipv4", "reqq"], str k ∉ [str "m", str "metadata_size"] := by
  simp only [str_eq]; decide +kernel

theorem hs_fits (k n : Nat) (hk : k < 2 ^ 63) (hn : n < 2 ^ 63) : Fits 2 (.dict (hsDict k n)) := by
  refine struct_fits (hsFields k n) hs_names ?_
  simp only [hsFields, List.forall_mem_cons]
  refine ⟨fits_some (struct_fits [(str "ut_metadata", some (bnat k))] m_names ?_), fits_some (fits_bnat hn), nofun⟩
  simp only [List.forall_mem_cons]
  exact ⟨fits_some (fits_bnat hk), nofun⟩

theorem readHandshakeC_honest (k n : Nat) (hk : k < 256) (hn : n < 2 ^ 63) (r : Bytes) :
    readHandshakeC (hsBodyOf k n ++ r) = some { metadataSize := some n, utMetadataId := some k } := by
  have hl : ∀ f ∈ hsFields k n, (hsDict k n).lookup f.1 = f.2 := lookup_struct (hsFields k n) hs_names.1
  have habs : ∀ key ∈ ["p", "v", "yourip", "ipv6", "ipv4", "reqq"], ∀ ok, typedOk (hsDict k n) key ok = true :=
    fun key hkey ok => typedOk_absent ok (lookup_struct_absent (hsFields k n) (hs_absent key hkey))
  unfold readHandshakeC hsBodyOf
  rw [(hs_fits k n (Nat.lt_trans hk (by decide)) hn).decodeTop (by decide) r]
  generalize hsDict k n = d at hl habs
  simp only [hsFields, List.forall_mem_cons] at hl habs
  obtain ⟨lm, lsize, -⟩ := hl
  obtain ⟨hp, hv, hyour, h6, h4, hreqq, -⟩ := habs
  -- a one-field struct is a one-entry dictionary by unfolding
  have hm : (mDict k).lookup (str "ut_metadata") = some (bnat k) := if_pos rfl
  have hmv : mValuesOk (mDict k) = true := by
    show (isUtf8 (str "ut_metadata") && isNatBelow 256 (bnat k) && true) = true
    rw [isUtf8_of_ascii (m_names.2 _ (.head _)).2, isNatBelow_bnat hk]; rfl
  -- `m` passes, `metadata_size` is in range, the other typed keys are absent
  simp only [lm, hmv, typedOk_of lsize, isNatBelow_bnat (lt_u64 hn), hp, hv, hyour, h6, h4, hreqq, Bool.and_self,
    Bool.not_true, Bool.false_eq_true, if_false, lsize, hm]
  rfl

def utFields (k total : Nat) : List (Bytes × Option BVal) :=
  [(str "msg_type", some (bnat 1)), (str "piece", some (bnat k)), (str "total_size", some (bnat total))]

def utDict (k total : Nat) : BDict := dictOfFields (present (utFields k total))

def utBodyOf (k total : Nat) (data : Bytes) : Bytes := encode (.dict (utDict k total)) ++ data

theorem ut_names : FieldNames [str "msg_type", str "piece", str "total_size"] := by simp only [str_eq]; decide +kernel

theorem ut_fits (k total : Nat) (hk : k < 2 ^ 63) (ht : total < 2 ^ 63) : Fits 1 (.dict (utDict k total)) := by
  refine struct_fits (utFields k total) ut_names ?_
  simp only [utFields, List.forall_mem_cons]
  exact ⟨fits_some (fits_bnat (by decide)), fits_some (fits_bnat hk), fits_some (fits_bnat ht), nofun⟩

theorem readUtMsgC_honest (k total : Nat) (hk : k < 2 ^ 63) (ht : total < 2 ^ 63) (data : Bytes) :
    readUtMsgC (utBodyOf k total data) =
      some ({ msgType := 1, piece := k, totalSize := some total }, (encode (.dict (utDict k total))).length) := by
  have hl : ∀ f ∈ utFields k total, (utDict k total).lookup f.1 = f.2 := lookup_struct (utFields k total) ut_names.1
  unfold readUtMsgC utBodyOf
  rw [(ut_fits k total hk ht).decodeTop (by decide) data]
  generalize hd : utDict k total = d at hl
  simp only [utFields, List.forall_mem_cons] at hl
  obtain ⟨ltype, lpiece, ltotal, -⟩ := hl
  simp only [ltype, lpiece, typedOk_of ltotal, isNatBelow_bnat (lt_u64 hk), isNatBelow_bnat (lt_u64 ht),
    isNatBelow_bnat (show 1 < 256 by decide), Bool.and_self, Bool.not_true, Bool.false_eq_true, if_false, ltotal]
  -- the header the reader re-encodes is the one that was sent
  rw [← hd]
  rfl

theorem utBody_drop (k total : Nat) (data : Bytes) :
    (utBodyOf k total data).drop (encode (.dict (utDict k total))).length = data :=
  List.drop_left

/-! ### sizes: the bodies are short (C11 needs them to fit the 32-bit length prefix of a frame) -/

theorem bnat_length_le {n : Nat} (h : n < 2 ^ 63) : (encode (bnat n)).length ≤ 21 := by
  have := natDigits_length_le 18 n (Nat.lt_trans h (by decide))
  simp only [bnat, encode, Bool.false_eq_true, if_false, List.length_append, List.length_cons, List.length_nil]
  omega

theorem hsBody_length (k n : Nat) (hk : k < 2 ^ 63) (hn : n < 2 ^ 63) : (hsBodyOf k n).length ≤ 100 := by
  have c1 : (encBytes (str "m")).length = 3 := by simp only [str_eq]; decide +kernel
  have c2 : (encBytes (str "ut_metadata")).length = 14 := by simp only [str_eq]; decide +kernel
  have c3 : (encBytes (str "metadata_size")).length = 16 := by simp only [str_eq]; decide +kernel
  have h1 : (hsBodyOf k n).length ≤ _ := struct_length_le (hsFields k n)
  have h2 : (encode (.dict (mDict k))).length ≤ _ := struct_length_le [(str "ut_metadata", some (bnat k))]
  have := bnat_length_le hk
  have := bnat_length_le hn
  simp only [hsFields, present, List.filterMap_cons, Option.map_some, List.filterMap_nil, List.map_cons, List.map_nil,
    List.sum_cons, List.sum_nil, c1, c2, c3] at h1 h2
  omega

theorem utHeader_length (k t : Nat) (hk : k < 2 ^ 63) (ht : t < 2 ^ 63) : (encode (.dict (utDict k t))).length ≤ 100 := by
  have c1 : (encBytes (str "msg_type")).length = 10 := by simp only [str_eq]; decide +kernel
  have c2 : (encBytes (str "piece")).length = 7 := by simp only [str_eq]; decide +kernel
  have c3 : (encBytes (str "total_size")).length = 13 := by simp only [str_eq]; decide +kernel
  have h1 : (encode (.dict (utDict k t))).length ≤ _ := struct_length_le (utFields k t)
  have := bnat_length_le (n := 1) (by decide)
  have := bnat_length_le hk
  have := bnat_length_le ht
  simp only [utFields, present, List.filterMap_cons, Option.map_some, List.filterMap_nil, List.map_cons, List.map_nil,
    List.sum_cons, List.sum_nil, c1, c2, c3] at h1
  omega

end Imdlv.Peer
