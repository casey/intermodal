import Imdlv.Lemmas.TypedRoundTrip
import Imdlv.Model.Load
/-!
# Loading what was written: `loadTorrent (serialize m) = ok m`

The typed metainfo reader reads a serialised metainfo back as exactly the value that was written,
the generic decoder finds its info dictionary, and the loader's validations pass — so everything
`show`, `link` and `verify` work from is exactly what `create` assembled.
-/
namespace Imdlv.Metainfo
open Imdlv Imdlv.Bencode Imdlv.Peer Imdlv.Load

theorem infoKey_eq : Infohash.infoKey = str "info" := by simp only [str_eq]; decide +kernel

theorem optStr_of {d : BDict} {key : String} {o : Option Bytes}
    (hl : d.lookup (str key) = o.map bstr) (hu : ∀ s, o = some s → isUtf8 s = true) : optStr d key = some o := by
  unfold optStr
  rw [hl]
  cases o with
  | none => rfl
  | some s => simp only [Option.map_some, bstr, hu s rfl, if_true]

theorem tierStrs_eq_strList : ∀ (l : BList), tierStrs l = strList l
  | .nil => rfl
  | .cons (.bytes b) t => by simp only [tierStrs, strList, tierStrs_eq_strList t]
  | .cons (.int _ _) _ | .cons (.list _) _ | .cons (.dict _) _ => rfl

theorem tiers_roundtrip (ts : List (List Bytes)) (h : ∀ t ∈ ts, ∀ c ∈ t, isUtf8 c = true) :
    tiers (BList.ofList (ts.map fun t => blist (t.map bstr))) = some ts := by
  induction ts with
  | nil => rfl
  | cons t rest ih =>
    obtain ⟨ht, hr⟩ := List.forall_mem_cons.mp h
    show tiers (.cons (.list (BList.ofList (t.map bstr))) (BList.ofList (rest.map fun t => blist (t.map bstr)))) = _
    simp only [tiers, tierStrs_eq_strList, strList_strs t ht, ih hr]

theorem readNodes_roundtrip (ns : List NodeM) (h : ∀ n ∈ ns, readNode n.toBVal = .ok n) :
    readNodes (BList.ofList (ns.map NodeM.toBVal)) = some (some ns) := by
  induction ns with
  | nil => rfl
  | cons n rest ih =>
    obtain ⟨hn, hr⟩ := List.forall_mem_cons.mp h
    simp only [List.map_cons, BList.ofList, readNodes, hn, ih hr]

def optUtf8 (o : Option Bytes) : Prop := ∀ s, o = some s → isUtf8 s = true ∧ s.length < 2 ^ 64

/-- what the typed metainfo reader demands -/
def MetainfoM.Typed (urlOk : Bytes → Bool) (m : MetainfoM) : Prop :=
  optUtf8 m.announce ∧ (∀ ts, m.announceList = some ts → ∀ t ∈ ts, ∀ c ∈ t, isUtf8 c = true ∧ c.length < 2 ^ 64) ∧
  optUtf8 m.comment ∧ optUtf8 m.createdBy ∧ (∀ d, m.creationDate = some d → d < 2 ^ 63) ∧ optUtf8 m.encoding ∧
  m.info.Typed urlOk ∧ (∀ ns, m.nodes = some ns → ∀ n ∈ ns, readNode n.toBVal = .ok n ∧ n.Ok)

theorem MetainfoM.Typed.ok {urlOk : Bytes → Bool} {m : MetainfoM} (h : m.Typed urlOk) : m.Ok := by
  obtain ⟨ha, ht, hc, hcb, hcd, he, hi, hn⟩ := h
  exact ⟨fun s hs => (ha s hs).2, fun ts hts t htt u hu => (ht ts hts t htt u hu).2, fun s hs => (hc s hs).2,
    fun s hs => (hcb s hs).2, hcd, fun s hs => (he s hs).2, hi.ok, fun ns hns n hnn => (hn ns hns n hnn).2⟩

theorem readMetainfo_of {urlOk : Bytes → Bool} {m : MetainfoM} (h : m.Typed urlOk) {b r : Bytes} {d : BDict}
    (hdec : decodeTop 2048 b = some (.dict d, r)) (hu : keysUtf8 d = true)
    (hl : ∀ f ∈ topFields m, d.lookup f.1 = f.2) : readMetainfo urlOk b = some (some m) := by
  unfold readMetainfo
  rw [hdec]
  obtain ⟨ann, al, com, cb, cd, enc, info, nodes⟩ := m
  simp only [MetainfoM.Typed] at h
  obtain ⟨ha, ht, hc, hcb, hcd, he, hi, hn⟩ := h
  simp only [topFields, List.forall_mem_cons] at hl
  obtain ⟨lann, lal, lcom, lcb, lcd, lenc, linfo, lnodes, -⟩ := hl
  have hinfo : readInfoC urlOk (encode (.dict (structDict (infoFields info)))) = some info :=
    readInfoC_toBVal urlOk info hi
  rw [InfoM.toBVal_eq] at linfo
  simp -zeta only [hu, linfo, hinfo,
    optStr_of lann fun s hs => (ha s hs).1, optStr_of lcom fun s hs => (hc s hs).1,
    optStr_of lcb fun s hs => (hcb s hs).1, optStr_of lenc fun s hs => (he s hs).1, lal, lcd, lnodes,
    Bool.not_true, Bool.false_eq_true, if_false]
  extract_lets AL CD ND
  have hAL : AL = some al := by
    rcases al with _ | ts
    · rfl
    · exact congrArg (Option.map some) (tiers_roundtrip ts fun t ht' c hc' => (ht ts rfl t ht' c hc').1)
  have hCD : CD = some cd := by
    rcases cd with _ | n
    · rfl
    · simp only [CD, Option.map_some, bnat, lt_u64 (hcd n rfl), if_true]
  have hND : ND = some (some nodes) := by
    rcases nodes with _ | ns
    · rfl
    · exact congrArg (Option.map (Option.map some)) (readNodes_roundtrip ns fun n hn' => (hn ns rfl n hn').1)
  rw [hAL, hCD, hND]

theorem readMetainfo_serialize (urlOk : Bytes → Bool) (m : MetainfoM) (h : m.Typed urlOk) (r : Bytes) :
    readMetainfo urlOk (m.serialize ++ r) = some (some m) :=
  readMetainfo_of h (serialize_reads_back m h.ok 2048 (by decide) r) (struct_keysUtf8 (topFields m) top_names)
    (lookup_struct (topFields m) top_names.1)

/-- the span returned is what the loader hashes: the encoding of the info dictionary -/
theorem load_serialize (urlOk : Bytes → Bool) (m : MetainfoM) (h : m.Typed urlOk)
    (hpaths : pathsOk m.info.mode = true) (s : Nat) (hsize : contentSize? m.info.mode = some s) :
    loadTorrent urlOk m.serialize = .ok m (encode m.info.toBVal) := by
  have hrd := readMetainfo_serialize urlOk m h []
  have hdec := serialize_reads_back m h.ok 2048 (by decide) []
  have hinfo : (structDict (topFields m)).lookup (str "info") = some m.info.toBVal :=
    lookup_struct_get (topFields m) top_names.1 (i := 6) rfl
  rw [List.append_nil] at hrd hdec
  simp only [loadTorrent, hrd, hpaths, hsize, Infohash.infohashFromInput, hdec, MetainfoM.toBVal_eq, infoKey_eq, hinfo,
    InfoM.toBVal_eq, Bool.not_true, Bool.false_eq_true, if_false]

end Imdlv.Metainfo
