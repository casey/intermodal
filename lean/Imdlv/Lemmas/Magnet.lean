import Imdlv.Model.Magnet
import Imdlv.Lemmas.Basic
namespace Imdlv.Magnet

/-! ### byte classes

`keepLiteral` ⊆ `OkByte` (`keepLiteral` and `%`) ⊆ `UrlStable`. That a byte (`%`, `&`, `+`) lies outside a class is
evaluated at that byte; only the second inclusion is a table. -/

def OkByte (x : UInt8) : Prop := (keepLiteralN x.toNat || x.toNat == 37) = true

/-- left alone by `urlQueryPass` -/
def UrlStable (x : UInt8) : Prop := urlDropsN x.toNat = false ∧ urlEncodesN x.toNat = false

theorem toNat_ne (x : UInt8) (k : Nat) (hk : k < 256) (h : x.toNat ≠ k) : x ≠ UInt8.ofNat k :=
  fun e => h (e ▸ UInt8.toNat_ofNat_of_lt' hk)

theorem okByte_of_keep {x : UInt8} (h : keepLiteral x = true) : OkByte x :=
  Bool.or_eq_true_iff.mpr (.inl h)

theorem okByte_stable {x : UInt8} (h : OkByte x) : UrlStable x :=
  (by decide +kernel : ∀ n, n < 256 → (keepLiteralN n || n == 37) = true →
    urlDropsN n = false ∧ urlEncodesN n = false) _ x.toNat_lt h

theorem okByte_ne_amp {x : UInt8} (h : OkByte x) : x ≠ 38 := by
  rintro rfl; revert h; unfold OkByte; decide

theorem okByte_ne_plus {x : UInt8} (h : OkByte x) : x ≠ 43 := by
  rintro rfl; revert h; unfold OkByte; decide

theorem keepLiteral_ne_pct {x : UInt8} (h : keepLiteral x = true) : x ≠ 37 := by
  rintro rfl; cases h

theorem hexUp_val : ∀ k, k < 16 → hexValB (hexUp k) = some k ∧ keepLiteral (hexUp k) = true := by decide +kernel

theorem pctDecode_cons_ne (c : UInt8) (t : Bytes) (h : c ≠ 37) : pctDecode (c :: t) = c :: pctDecode t :=
  pctDecode.eq_3 c t fun _ _ _ e _ => h e

theorem escape_cons (c : UInt8) (t : Bytes) : escape (c :: t) =
    (if keepLiteral c then [c] else [37, hexUp (c.toNat / 16), hexUp (c.toNat % 16)]) ++ escape t :=
  List.flatMap_cons

theorem pct_roundtrip (s : Bytes) : pctDecode (escape s) = s := by
  induction s with
  | nil => rfl
  | cons c t ih =>
    rw [escape_cons]
    split
    · next hk => rw [List.singleton_append, pctDecode_cons_ne c _ (keepLiteral_ne_pct hk), ih]
    · have hlt := c.toNat_lt
      simp only [List.cons_append, List.nil_append, pctDecode, ih, byte_recompose,
        (hexUp_val (c.toNat / 16) (by omega)).1, (hexUp_val (c.toNat % 16) (by omega)).1]

theorem escape_ok (s : Bytes) : ∀ x ∈ escape s, OkByte x := by
  refine List.forall_mem_flatMap.mpr fun c _ => ?_
  have hlt := c.toNat_lt
  split
  · next hk => exact List.forall_mem_singleton.mpr (okByte_of_keep hk)
  · simp only [List.forall_mem_cons]
    exact ⟨by unfold OkByte; decide, okByte_of_keep (hexUp_val _ (by omega)).2,
      okByte_of_keep (hexUp_val _ (by omega)).2, nofun⟩

theorem escape_keep {s : Bytes} (h : ∀ x ∈ s, keepLiteral x = true) : escape s = s := by
  induction s with
  | nil => rfl
  | cons c t ih =>
    obtain ⟨hc, ht⟩ := List.forall_mem_cons.mp h
    rw [escape_cons, if_pos hc, ih ht]; rfl

theorem plusToSpace_no_plus {s : Bytes} (h : ∀ x ∈ s, x ≠ 43) : plusToSpace s = s :=
  (List.map_congr_left fun x hx => if_neg (h x hx)).trans (List.map_id s)

theorem dec_escape (pa : Bool) (s : Bytes) :
    pctDecode (if pa then plusToSpace (escape s) else escape s) = s := by
  rw [plusToSpace_no_plus fun x hx => okByte_ne_plus (escape_ok s x hx), ite_self, pct_roundtrip]

theorem dec_keep (pa : Bool) {s : Bytes} (h : ∀ x ∈ s, keepLiteral x = true) :
    pctDecode (if pa then plusToSpace s else s) = s := by
  have := dec_escape pa s
  rwa [escape_keep h] at this

theorem urlQueryPass_stable (q : Bytes) (h : ∀ x ∈ q, UrlStable x) : urlQueryPass q = q := by
  -- nothing is dropped, and every byte is mapped to itself
  rw [urlQueryPass, List.filter_eq_self.2 fun x hx => by rw [(h x hx).1]; rfl, List.flatMap_def,
    List.map_congr_left fun x hx => if_neg (by rw [(h x hx).2]; exact Bool.false_ne_true), ← List.flatMap_def,
    List.flatMap_singleton']

theorem urlQueryPass_ok (q : Bytes) (h : ∀ x ∈ q, OkByte x) : urlQueryPass q = q :=
  urlQueryPass_stable q fun x hx => okByte_stable (h x hx)

theorem splitOn_eq : splitOn = splitBy := by
  funext sep s; unfold splitOn splitBy; congr; funext b acc; split
  · rfl
  · cases acc <;> rfl

theorem joinAmp_eq : joinAmp = joinBy 38 := by
  funext l; fun_induction joinAmp l <;> simp only [joinBy, *]

theorem commaJoin_eq : commaJoin = joinBy 44 := by
  funext l; fun_induction commaJoin l <;> simp only [joinBy, *]

theorem splitFirstEq_key {k v : Bytes} (h : ∀ x ∈ k, x ≠ 61) : splitFirstEq (k ++ 61 :: v) = (k, v) := by
  induction k with
  | nil => rfl
  | cons c t ih =>
    obtain ⟨hc, ht⟩ := List.forall_mem_cons.mp h
    rw [List.cons_append, splitFirstEq.eq_3 c _ hc, ih ht]

theorem hexNibble_val : ∀ k, k < 16 → hexValB (hexNibble k) = some k ∧ keepLiteral (hexNibble k) = true := by
  decide +kernel

theorem hexLower_keep (s : Bytes) : ∀ x ∈ hexLower s, keepLiteral x = true := by
  refine List.forall_mem_flatMap.mpr fun c _ => ?_
  have hlt := c.toNat_lt
  simp only [List.forall_mem_cons]
  exact ⟨(hexNibble_val _ (by omega)).2, (hexNibble_val _ (by omega)).2, nofun⟩

theorem hexLower_cons (c : UInt8) (t : Bytes) :
    hexLower (c :: t) = hexNibble (c.toNat / 16) :: hexNibble (c.toNat % 16) :: hexLower t := rfl

theorem unhex40_hexLower (s : Bytes) : unhex40 (hexLower s) = some s := by
  unfold unhex40
  induction s with
  | nil => rfl
  | cons c t ih =>
    have hlt := c.toNat_lt
    simp only [hexLower_cons, unhex40.go, ih, byte_recompose,
      (hexNibble_val (c.toNat / 16) (by omega)).1, (hexNibble_val (c.toNat % 16) (by omega)).1]

theorem unhex40_go_length : ∀ (s b : Bytes), unhex40.go s = some b → 2 * b.length = s.length
  | [], b, h => by cases h; rfl
  | [_], b, h => by cases h
  | x :: y :: t, b, h => by
    rw [unhex40.go] at h
    split at h
    · next r _ _ hg =>
      cases h
      rw [List.length_cons, Nat.mul_add_one, unhex40_go_length t r hg]; rfl
    · cases h

theorem hexLower_length (s : Bytes) : (hexLower s).length = 2 * s.length := by
  induction s with
  | nil => rfl
  | cons _ t ih => exact congrArg (· + 2) ih

theorem natDigits_eq : natDigits = digitsOf fun k => UInt8.ofNat (48 + k) := by
  funext n; induction n using natDigits.induct <;> rw [natDigits, digitsOf] <;> simp [*]

theorem natDigits_keep (n : Nat) : ∀ x ∈ natDigits n, keepLiteral x = true :=
  natDigits_eq ▸ forall_mem_digitsOf (by decide) n

/-- `toQuery` over arbitrary pairs (`toQuery_eq`) -/
def printQuery (pairs : List (Bytes × Bytes)) : Bytes :=
  joinAmp (pairs.map fun kv => kv.1 ++ [61] ++ escape kv.2)

theorem printQuery_seg_ok {k v : Bytes} (hk : ∀ x ∈ k, keepLiteral x = true) :
    ∀ x ∈ k ++ [61] ++ escape v, OkByte x := by
  simp only [List.forall_mem_append, List.forall_mem_singleton]
  exact ⟨⟨fun x hx => okByte_of_keep (hk x hx), okByte_of_keep (by decide)⟩, escape_ok v⟩

theorem printQuery_stable {pairs : List (Bytes × Bytes)} (hk : ∀ kv ∈ pairs, ∀ x ∈ kv.1, keepLiteral x = true) :
    ∀ x ∈ printQuery pairs, UrlStable x := by
  rw [printQuery, joinAmp_eq]
  refine joinBy_forall (by unfold UrlStable; decide) fun s hs => ?_
  obtain ⟨kv, hkv, rfl⟩ := List.mem_map.mp hs
  exact fun x hx => okByte_stable (printQuery_seg_ok (hk kv hkv) x hx)

theorem stdParse_printQuery (pa : Bool) {pairs : List (Bytes × Bytes)} (hne : pairs ≠ [])
    (hk : ∀ kv ∈ pairs, ∀ x ∈ kv.1, keepLiteral x = true ∧ x ≠ 61) :
    stdParse pa (printQuery pairs) = pairs := by
  rw [stdParse, printQuery, splitOn_eq, joinAmp_eq, splitBy_joinBy (by simpa using hne), List.map_map]
  · refine (List.map_congr_left fun kv hkv => ?_).trans (List.map_id _)
    simp only [Function.comp, List.append_assoc, List.singleton_append, dec_escape,
      splitFirstEq_key fun x hx => (hk kv hkv x hx).2, dec_keep pa fun x hx => (hk kv hkv x hx).1]
    rfl
  · intro s hs
    obtain ⟨kv, hkv, rfl⟩ := List.mem_map.mp hs
    exact contains_false_of_ne fun x hx => okByte_ne_amp (printQuery_seg_ok (fun x hx => (hk kv hkv x hx).1) x hx)

theorem b_eq (s : String) : b s = s.toUTF8.data.toList := utf8_toList s

/-- The `xt` and `so` values consist of literal bytes, which `escape` copies: they too are escaped values, and
what `to_url` assembles is the escaping printer run on the pairs to be recovered. -/
theorem segments_eq (l : Link) : segments l = (expectedPairs l).map fun kv => (kv.1, escape kv.2) := by
  have hxt : escape (b "urn:btih:" ++ hexLower l.infohash) = _ :=
    escape_keep (List.forall_mem_append.mpr ⟨by decide +kernel, hexLower_keep _⟩)
  have hso : escape (commaJoin (l.indices.map natDigits)) = _ :=
    escape_keep (commaJoin_eq ▸ joinBy_forall (by decide) (List.forall_mem_map.mpr fun n _ => natDigits_keep n))
  unfold segments expectedPairs
  cases l.name <;>
    simp only [List.map_append, List.map_map, List.map_cons, List.map_nil, apply_ite (List.map _), Function.comp_def,
      hxt, hso]

theorem toQuery_eq (l : Link) : toQuery l = printQuery (expectedPairs l) := by
  rw [toQuery, segments_eq, List.map_map]; rfl

theorem expectedPairs_keys (l : Link) : ∀ kv ∈ expectedPairs l, ∀ x ∈ kv.1, keepLiteral x = true ∧ x ≠ 61 := by
  have keys : ∀ k ∈ [b "xt", b "dn", b "tr", b "x.pe", b "so"], ∀ x ∈ k, keepLiteral x = true ∧ x ≠ 61 := by
    decide +kernel
  simp only [List.forall_mem_cons] at keys
  obtain ⟨xt, dn, tr, pe, so, -⟩ := keys
  simp only [expectedPairs, List.forall_mem_append, List.forall_mem_map, List.forall_mem_singleton]
  refine ⟨⟨⟨⟨xt, ?_⟩, fun _ _ => tr⟩, fun _ _ => pe⟩, ?_⟩
  · cases l.name
    · nofun
    · exact List.forall_mem_singleton.mpr dn
  · split
    · nofun
    · exact List.forall_mem_singleton.mpr so

theorem mem_insertIdx {x a : Nat} {l : List Nat} : a ∈ insertIdx x l ↔ a = x ∨ a ∈ l := by
  induction l with
  | nil => simp [insertIdx]
  | cons y t ih =>
    rw [insertIdx]
    split
    · exact List.mem_cons
    · split
      · next h => subst h; simp
      · rw [List.mem_cons, ih, List.mem_cons, or_left_comm]

theorem insertIdx_sorted (x : Nat) {l : List Nat} (h : l.Pairwise (· < ·)) : (insertIdx x l).Pairwise (· < ·) := by
  induction l with
  | nil => exact List.pairwise_singleton ..
  | cons y t ih =>
    obtain ⟨hy, ht⟩ := List.pairwise_cons.mp h
    rw [insertIdx]
    split
    · next hlt =>
      refine List.pairwise_cons.mpr ⟨fun a ha => ?_, h⟩
      rcases List.mem_cons.mp ha with rfl | ha
      · exact hlt
      · exact Nat.lt_trans hlt (hy a ha)
    · split
      · exact h
      · refine List.pairwise_cons.mpr ⟨fun a ha => ?_, ih ht⟩
        rcases mem_insertIdx.mp ha with rfl | ha
        · omega
        · exact hy a ha

theorem mem_foldl_insertIdx {a : Nat} (xs s : List Nat) :
    a ∈ xs.foldl (fun s x => insertIdx x s) s ↔ a ∈ s ∨ a ∈ xs := by
  simpa using mem_foldl (P := fun x y => y = x) (fun _ _ _ => mem_insertIdx.trans or_comm) a xs s

theorem dedupFirst_props (l seen : List Bytes) :
    (dedupFirst seen l).Nodup ∧ (∀ a, a ∈ dedupFirst seen l ↔ a ∈ l ∧ a ∉ seen) ∧ (dedupFirst seen l).Sublist l := by
  induction l generalizing seen with
  | nil => simp [dedupFirst]
  | cons x t ih =>
    rw [dedupFirst]
    split
    · next hs =>
      obtain ⟨h1, h2, h3⟩ := ih seen
      refine ⟨h1, fun a => ?_, h3.cons _⟩
      rw [h2, List.mem_cons]
      exact and_congr_left fun hn => (or_iff_right fun (e : a = x) => hn (e ▸ List.contains_iff_mem.mp hs)).symm
    · next hs =>
      obtain ⟨h1, h2, h3⟩ := ih (x :: seen)
      refine ⟨List.nodup_cons.mpr ⟨fun h => ((h2 x).mp h).2 (List.mem_cons_self ..), h1⟩, fun a => ?_, h3.cons_cons _⟩
      rw [List.mem_cons, h2, List.mem_cons, List.mem_cons, not_or]
      by_cases e : a = x
      · simpa [e] using hs
      · simp [e]

theorem findTopic_nil : findTopic [] = .error .topicMissing := rfl

theorem findTopic_cons (k v : Bytes) (t : List (Bytes × Bytes)) : findTopic ((k, v) :: t) =
    if k = b "xt" ∧ v.take 9 = b "urn:btih:" then
      if (v.drop 9).length ≠ 40 then .error .infohashLength
      else match unhex40 (v.drop 9) with
        | some bytes => .ok bytes
        | none => .error .hexParse
    else findTopic t := rfl

theorem findTopic_cons_ok {k v ih : Bytes} {t : List (Bytes × Bytes)} (h : findTopic ((k, v) :: t) = .ok ih) :
    (k = b "xt" ∧ v.take 9 = b "urn:btih:" ∧ (v.drop 9).length = 40 ∧ unhex40 (v.drop 9) = some ih) ∨
      findTopic t = .ok ih := by
  rw [findTopic_cons] at h
  obtain ⟨hc, h⟩ | ⟨_, h⟩ := ite_eq_cases h
  · obtain ⟨hlen, h⟩ := else_of_ite_eq h nofun
    split at h
    · next hu => exact .inl ⟨hc.1, hc.2, Decidable.not_not.1 hlen, hu.trans (congrArg some (Except.ok.inj h))⟩
    · cases h
  · exact .inr h

theorem findTopic_missing {pairs : List (Bytes × Bytes)} (h : ∀ v, (b "xt", v) ∈ pairs → v.take 9 ≠ b "urn:btih:") :
    findTopic pairs = .error .topicMissing := by
  induction pairs with
  | nil => exact findTopic_nil
  | cons kv t ih =>
    obtain ⟨k, v⟩ := kv
    rw [findTopic_cons, if_neg fun hc => h v (by simp [hc.1]) hc.2]
    exact ih fun v' hv' => h v' (List.mem_cons_of_mem _ hv')

/-- the parser's per-pair step (the body of the fold in `parsePairs`) -/
def pstep (urlOk peerOk : Bytes → Bool) (acc : Except PErr Parsed) (kv : Bytes × Bytes) : Except PErr Parsed :=
  match acc with
  | .error e => .error e
  | .ok p =>
    if kv.1 = b "tr" then (if urlOk kv.2 then .ok { p with trackers := p.trackers ++ [kv.2] } else .error .tracker)
    else if kv.1 = b "dn" then .ok { p with name := some kv.2 }
    else if kv.1 = b "x.pe" then (if peerOk kv.2 then .ok { p with peers := p.peers ++ [kv.2] } else .error .peer)
    else .ok p

theorem parsePairs_eq (urlOk peerOk : Bytes → Bool) (pairs : List (Bytes × Bytes)) :
    parsePairs urlOk peerOk pairs =
      match findTopic pairs with
      | .error e => .error e
      | .ok ih => pairs.foldl (pstep urlOk peerOk) (.ok { infohash := ih, name := none, trackers := [], peers := [] }) := rfl

section
variable {urlOk peerOk : Bytes → Bool} {p : Parsed} {v : Bytes}

theorem pstep_other {k : Bytes} (h : k ≠ b "tr" ∧ k ≠ b "dn" ∧ k ≠ b "x.pe") :
    pstep urlOk peerOk (.ok p) (k, v) = .ok p := by
  rw [pstep, if_neg h.1, if_neg h.2.1, if_neg h.2.2]

theorem pstep_xt : pstep urlOk peerOk (.ok p) (b "xt", v) = .ok p := pstep_other (by decide +kernel)

theorem pstep_so : pstep urlOk peerOk (.ok p) (b "so", v) = .ok p := pstep_other (by decide +kernel)

theorem pstep_dn : pstep urlOk peerOk (.ok p) (b "dn", v) = .ok { p with name := some v } := by
  simp [pstep, (by decide +kernel : b "dn" ≠ b "tr")]

theorem pstep_tr : pstep urlOk peerOk (.ok p) (b "tr", v) =
    if urlOk v then .ok { p with trackers := p.trackers ++ [v] } else .error .tracker := if_pos rfl

theorem pstep_pe : pstep urlOk peerOk (.ok p) (b "x.pe", v) =
    if peerOk v then .ok { p with peers := p.peers ++ [v] } else .error .peer := by
  simp [pstep, (by decide +kernel : b "x.pe" ≠ b "tr" ∧ b "x.pe" ≠ b "dn")]

theorem fold_trackers {ts : List Bytes} (h : ∀ t ∈ ts, urlOk t = true) :
    (ts.map fun t => (b "tr", t)).foldl (pstep urlOk peerOk) (.ok p) = .ok { p with trackers := p.trackers ++ ts } := by
  induction ts generalizing p with
  | nil => simp
  | cons t ts ih =>
    obtain ⟨ht, hts⟩ := List.forall_mem_cons.mp h
    rw [List.map_cons, List.foldl_cons, pstep_tr, if_pos ht, ih hts]; simp

theorem fold_peers {ps : List Bytes} (h : ∀ x ∈ ps, peerOk x = true) :
    (ps.map fun x => (b "x.pe", x)).foldl (pstep urlOk peerOk) (.ok p) = .ok { p with peers := p.peers ++ ps } := by
  induction ps generalizing p with
  | nil => simp
  | cons x ps ih =>
    obtain ⟨hx, hps⟩ := List.forall_mem_cons.mp h
    rw [List.map_cons, List.foldl_cons, pstep_pe, if_pos hx, ih hps]; simp

end

end Imdlv.Magnet
