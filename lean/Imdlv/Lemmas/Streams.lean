import Imdlv.Model.Streams
import Imdlv.Model.WriteAll
namespace Imdlv.Streams

theorem applyColor_active (u : UseColor) (s : Stream) : (applyColor u s).active = s.active := by
  cases u <;> rfl

theorem outStream_active (c : Config) : (outStream c).active = true := by
  unfold outStream
  split <;> exact applyColor_active ..

theorem errStream_active (c : Config) : (errStream c).active = !c.quiet := by
  unfold errStream
  cases c.quiet
  · simp only [Bool.false_eq_true, if_false, Bool.not_false]
    split <;> exact applyColor_active ..
  · rfl

/-- `--color` decides; left to `auto`, the environment and the descriptor do. `--terminal` has no say. -/
theorem outStream_style (c : Config) :
    (outStream c).style = match c.color with
      | .always => true
      | .auto => envStyle c && c.ttyOut
      | .never => false := by
  unfold outStream applyColor
  cases c.color <;> cases c.terminal <;> rfl

theorem emitted_out (c : Config) (ws : List Write) :
    emitted c .out ws = ((ws.filter (·.target == .out)).map (paint (outStream c).style)).flatten := by
  simp only [emitted, outStream_active, if_true]

theorem stdout_plain (c : Config) (ws : List Write) (hs : (outStream c).style = false) :
    emitted c .out ws = ((ws.filter (·.target == .out)).map (·.text)).flatten := by
  rw [emitted_out, hs]; rfl

end Imdlv.Streams

namespace Imdlv.WriteAll

theorem accepted_bounds {e : Option Int} {len n : Nat} (hlen : 0 < len) (h : accepted e len = some n) :
    1 ≤ n ∧ n ≤ len := by
  cases e with
  | none => cases h; exact ⟨hlen, Nat.le_refl _⟩
  | some k =>
    simp only [accepted] at h
    split at h
    · cases h
    · cases h; exact ⟨Nat.le_max_left .., Nat.max_le.2 ⟨hlen, Nat.min_le_right ..⟩⟩

theorem accepted_ne_none {e : Option Int} (h : ∀ k ∈ e, 0 ≤ k) (len : Nat) : accepted e len ≠ none := by
  cases e with
  | none => nofun
  | some k =>
    have : accepted (some k) len = some _ := if_neg (Int.not_lt.2 (h k rfl))
    rw [this]; nofun

theorem loop_prefix (fuel : Nat) (data : Bytes) (script : List Int) :
    (loop fuel data script).2 <+: data ∧ ((loop fuel data script).1 = true → (loop fuel data script).2 = data) := by
  fun_induction loop fuel data script with
  | case1 data _ => exact ⟨List.nil_prefix, fun h => (List.isEmpty_iff.1 h).symm⟩
  | case2 _ data _ he => exact ⟨List.nil_prefix, fun _ => (List.isEmpty_iff.1 he).symm⟩
  | case3 => exact ⟨List.nil_prefix, nofun⟩
  | case4 fuel data script _ n _ r ih =>
    refine ⟨?_, fun hs => ?_⟩
    · have := (List.prefix_append_right_inj (data.take n)).2 ih.1
      rwa [List.take_append_drop] at this
    · exact (congrArg (data.take n ++ ·) (ih.2 hs)).trans (List.take_append_drop n data)

/-- each turn takes at least one byte, so fuel for one turn per byte is enough -/
theorem loop_delivers (fuel : Nat) (data : Bytes) (script : List Int) (hfuel : data.length ≤ fuel)
    (h : ∀ k ∈ script, 0 ≤ k) : loop fuel data script = (true, data) := by
  fun_induction loop fuel data script with
  | case1 data _ => obtain rfl := List.eq_nil_of_length_eq_zero (Nat.le_zero.1 hfuel); rfl
  | case2 _ data _ he => obtain rfl := List.isEmpty_iff.1 he; rfl
  | case3 _ data script _ hacc =>
    exact absurd hacc (accepted_ne_none (fun k hk => h k (List.mem_of_mem_head? hk)) _)
  | case4 fuel data script he n hacc r ih =>
    have hn := (accepted_bounds (List.length_pos_iff.2 (mt List.isEmpty_iff.2 he)) hacc).1
    have hr : r = (true, data.drop n) :=
      ih (by simp only [List.length_drop]; omega) fun k hk => h k (List.mem_of_mem_tail hk)
    simp only [hr, List.take_append_drop]

end Imdlv.WriteAll
