import Imdlv.Model.Tracker
import Imdlv.Lemmas.Basic
namespace Imdlv.Tracker

theorem toBE_length (k n : Nat) : (toBE k n).length = k := by
  induction k with
  | zero => rfl
  | succ k ih => simp [toBE, ih]

theorem ofBE_append (a b : Bytes) : ofBE (a ++ b) = ofBE a * 256 ^ b.length + ofBE b := by
  induction b generalizing a with
  | nil => simp [ofBE]
  | cons y b ih =>
    rw [← List.singleton_append, ← List.append_assoc, ih (a ++ [y]), ih [y]]
    simp [ofBE, Nat.pow_succ, Nat.add_mul, Nat.mul_assoc, Nat.mul_comm 256, Nat.add_assoc]

theorem ofBE_cons (x : UInt8) (t : Bytes) : ofBE (x :: t) = x.toNat * 256 ^ t.length + ofBE t := by
  simpa [ofBE] using ofBE_append [x] t

theorem ofBE_toBE (k n : Nat) : ofBE (toBE k n) = n % 256 ^ k := by
  induction k with
  | zero => simp [toBE, ofBE, Nat.mod_one]
  | succ k ih =>
    rw [toBE, ofBE_cons, ih, toBE_length, Nat.mod_pow_succ, Nat.add_comm, Nat.mul_comm]
    simp

theorem recvLoop_fst_le (bufLen n : Nat) (replies : List (Option Bytes)) : (recvLoop bufLen n replies).1 ≤ n := by
  fun_induction recvLoop bufLen n replies with
  | case1 => exact Nat.le_refl 0
  | case2 n => exact Nat.succ_le_succ (Nat.zero_le n)
  | case3 _ _ _ _ ih => exact Nat.succ_le_succ ih

theorem recvLoop_mem {bufLen n : Nat} {replies : List (Option Bytes)} {d : Bytes}
    (h : (recvLoop bufLen n replies).2 = some d) : ∃ a, some a ∈ replies ∧ d = a.take bufLen := by
  fun_induction recvLoop bufLen n replies with
  | case1 => nomatch h
  | case2 _ _ a ha => exact ⟨a, List.mem_of_mem_head? ha, (Option.some.inj h).symm⟩
  | case3 _ _ _ _ ih =>
    obtain ⟨a, ha, e⟩ := ih h
    exact ⟨a, List.mem_of_mem_tail ha, e⟩

theorem exchange_fst (bufLen minLen act tid : Nat) (replies : List (Option Bytes)) :
    (exchange bufLen minLen act tid replies).1 = (recvLoop bufLen Consts.udpRetries replies).1 := by
  simp only [exchange]
  split
  · rfl
  · simp only [apply_ite Prod.fst, ite_self]

theorem runTracker_cid {stride ctid atid cid : Nat} {cr ar : List (Option Bytes)}
    (h : (runTracker stride ctid atid cr ar).2 = some cid) :
    ∃ d, (exchange Consts.connectRespLen Consts.connectRespLen 0 ctid cr).2 = .ok d ∧ cid = ofBE ((d.drop 8).take 8) := by
  unfold runTracker at h
  split at h
  · cases h
  · next n d hx =>
    refine ⟨d, congrArg Prod.snd hx, ?_⟩
    split at h <;> exact (Option.some.inj h).symm

theorem runTracker_result_ok {stride ctid atid : Nat} {cr ar : List (Option Bytes)} {l : List Bytes}
    (h : (runTracker stride ctid atid cr ar).1.result = .ok l) :
    ∃ d a, (exchange Consts.connectRespLen Consts.connectRespLen 0 ctid cr).2 = .ok d ∧
      (exchange Consts.rxBufLen Consts.announceRespLen 1 atid ar).2 = .ok a ∧
      parsePeers stride (a.drop Consts.announceRespLen) = .ok l := by
  unfold runTracker at h
  split at h
  · cases h
  · next d hx =>
    split at h
    · cases h
    · next a hy => exact ⟨d, a, congrArg Prod.snd hx, congrArg Prod.snd hy, h⟩

theorem mem_insertSet {x y : Bytes} {s : List Bytes} : y ∈ insertSet x s ↔ y ∈ s ∨ y = x := by
  unfold insertSet
  split
  · next h => exact ⟨.inl, fun h' => h'.elim id (· ▸ List.contains_iff_mem.mp h)⟩
  · simp

theorem nodup_insertSet {x : Bytes} {s : List Bytes} (h : s.Nodup) : (insertSet x s).Nodup := by
  unfold insertSet
  split
  · exact h
  · next hx => exact (List.perm_append_singleton x s).nodup_iff.mpr (List.nodup_cons.mpr ⟨by simpa using hx, h⟩)

theorem mem_foldl_insertSet {y : Bytes} {l s : List Bytes} :
    y ∈ l.foldl (fun s x => insertSet x s) s ↔ y ∈ s ∨ y ∈ l := by
  simpa using mem_foldl (P := fun x y => y = x) (fun _ _ _ => mem_insertSet) y l s

/-- in the branch with exit status 1 nothing is printed, and no outcome is `.peers` -/
theorem mem_announceCommand (outcomes : List TrackerOutcome) (y : Bytes) :
    y ∈ (announceCommand outcomes).2 ↔ ∃ l, .peers l ∈ outcomes ∧ y ∈ l := by
  simp only [announceCommand]
  split
  · next h =>
    rw [List.isEmpty_iff, List.filter_eq_nil_iff] at h
    exact ⟨nofun, fun ⟨l, hl, _⟩ => absurd rfl (h _ hl)⟩
  · rw [mem_foldl (P := fun o y => ∃ l, o = .peers l ∧ y ∈ l)]
    · simp only [List.not_mem_nil, false_or]
      exact ⟨fun ⟨_, h, l, e, hy⟩ => ⟨l, e ▸ h, hy⟩, fun ⟨l, h, hy⟩ => ⟨_, h, l, rfl, hy⟩⟩
    · intro s o y
      cases o <;> simp [mem_foldl_insertSet]

theorem nodup_announceCommand (outcomes : List TrackerOutcome) : (announceCommand outcomes).2.Nodup := by
  simp only [announceCommand]
  split
  · exact List.nodup_nil
  · refine List.foldlRecOn _ _ List.nodup_nil fun s hs o _ => ?_
    cases o with
    | peers l => exact List.foldlRecOn _ _ hs fun _ h _ _ => nodup_insertSet h
    | _ => exact hs

theorem announceCommand_exit (outcomes : List TrackerOutcome) :
    (announceCommand outcomes).1 = 1 ↔ ∀ o ∈ outcomes, o = .skipped := by
  simp only [announceCommand, apply_ite Prod.fst, ite_eq_left_iff, Nat.zero_ne_one, imp_false, Decidable.not_not,
    List.isEmpty_iff, List.filter_eq_nil_iff]
  exact forall₂_congr fun o _ => by cases o <;> simp

end Imdlv.Tracker
