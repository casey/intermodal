import Imdlv.Lemmas.HostIpv6
/-!
# The concrete host parser: what it accepts and what it returns (C17)

The guard chain of `hostParseC` is read once: an accepted text is a bracketed IPv6 literal or a non-empty text of
LDH characters (`hostParseOpt_some_cases`). `HostOk` (a well-formed domain, a 32-bit IPv4 value, eight 16-bit IPv6
groups) is what the parser can return (`hostParseOpt_ok`), and both printers print every such host as text that
parses back to it (`hostOk_show_parses`): the round-trip theorems apply to every value `HostPort::from_str` can
produce on the modelled host language.
-/
namespace Imdlv.HostPort

theorem hostParseOpt_eq_some {s : List Char} {h : Host} : hostParseOpt s = some h ↔ hostParseC s = .ok h := by
  unfold hostParseOpt
  cases hostParseC s <;> simp

theorem hostParseOpt_bracket (t : List Char) : hostParseOpt (['['] ++ t ++ [']']) = (parseIpv6 t).map .ipv6 := by
  have e1 : ((['['] ++ t ++ [']']).head? == some '[') = true := rfl
  have e2 : (['['] ++ t ++ [']']).getLast? = some ']' := by rw [List.getLast?_append]; rfl
  have e3 : ((['['] ++ t ++ [']']).drop 1).dropLast = t := by simp
  unfold hostParseOpt hostParseC
  rw [if_pos e1, if_neg (by rw [e2]; decide), e3]
  cases parseIpv6 t <;> rfl

/-- On a non-empty text of LDH characters every guard up to the `xn--` test passes (`ldh_facts`). -/
theorem hostParseOpt_ldh (s : List Char) (hne : s ≠ []) (hl : ∀ c ∈ s, isLdh c = true) :
    hostParseOpt s =
      if (splitOnCh '.' (s.map lowerAscii)).any (fun l => l.take 4 == "xn--".toList) then none
      else if endsInNumber (s.map lowerAscii) then (parseIpv4 (s.map lowerAscii)).map .ipv4
      else some (.domain (s.map lowerAscii)) := by
  have h1 : ¬ (s.head? == some '[') = true := fun h =>
    absurd (hl '[' (List.mem_of_mem_head? (by simpa using h))) (by decide)
  have h2 : ¬ s.isEmpty = true := by simpa using hne
  have none_of {p : Char → Bool} (hp : ∀ c, isLdh c = true → p c = false) : ¬ s.any p = true := by
    rw [Bool.not_eq_true, List.any_eq_false]
    exact fun c hc => by rw [hp c (hl c hc)]; decide
  have h5 : ¬ (!s.all isLdh) = true := by rw [List.all_eq_true.mpr hl]; decide
  unfold hostParseOpt hostParseC
  rw [if_neg h1, if_neg h2, if_neg (none_of fun c h => (ldh_facts c h).2.1),
    if_neg (none_of fun c h => (ldh_facts c h).1), if_neg h5]
  dsimp only
  by_cases hx : (splitOnCh '.' (s.map lowerAscii)).any (fun l => l.take 4 == "xn--".toList) = true
  · rw [if_pos hx, if_pos hx]
  · rw [if_neg hx, if_neg hx]
    by_cases he : endsInNumber (s.map lowerAscii) = true
    · rw [if_pos he, if_pos he]; cases parseIpv4 (s.map lowerAscii) <;> rfl
    · rw [if_neg he, if_neg he]

theorem hostParseOpt_some_cases (s : List Char) (h : Host) (hh : hostParseOpt s = some h) :
    (s.head? = some '[' ∧ ∃ segs, parseIpv6 (s.drop 1).dropLast = some segs ∧ h = .ipv6 segs) ∨
    (s ≠ [] ∧ ∀ c ∈ s, isLdh c = true) := by
  rw [hostParseOpt_eq_some, hostParseC] at hh
  obtain ⟨h1, hh⟩ | ⟨_, hh⟩ := ite_eq_cases hh
  · obtain ⟨_, hh⟩ := else_of_ite_eq hh nofun
    refine .inl ⟨by simpa using h1, ?_⟩
    match hp : parseIpv6 (s.drop 1).dropLast, hh with
    | some segs, hh => exact ⟨segs, rfl, (HostResult.ok.inj hh).symm⟩
  · obtain ⟨h2, hh⟩ := else_of_ite_eq hh nofun
    obtain ⟨_, hh⟩ := else_of_ite_eq hh nofun
    obtain ⟨_, hh⟩ := else_of_ite_eq hh nofun
    obtain ⟨h5, _⟩ := else_of_ite_eq hh nofun
    exact .inr ⟨by simpa using h2, by simpa using h5⟩

theorem hostParseOpt_lower (d : List Char) (hne : d.isEmpty = false) (hall : d.all isLdhLower = true)
    (hxn : (splitOnCh '.' d).any (fun l => l.take 4 == "xn--".toList) = false) :
    hostParseOpt d = if endsInNumber d then (parseIpv4 d).map .ipv4 else some (.domain d) := by
  have hl := List.all_eq_true.mp hall
  have hmap : d.map lowerAscii = d := (List.map_congr_left fun c hc => lower_fixed c (hl c hc)).trans (List.map_id d)
  rw [hostParseOpt_ldh d (by simpa using hne) (fun c hc => ldh_of_lower c (hl c hc)), hmap, hxn]
  rfl

def HostOk : Host → Prop
  | .domain d => DomainOk d
  | .ipv4 n => n < 2 ^ 32
  | .ipv6 segs => segs.length = 8 ∧ ∀ x ∈ segs, x < 65536

theorem hostParseOpt_ok (s : List Char) (h : Host) (hh : hostParseOpt s = some h) : HostOk h := by
  rcases hostParseOpt_some_cases s h hh with ⟨_, segs, hp, rfl⟩ | ⟨hne, hl⟩
  · exact parseIpv6_ok hp
  · rw [hostParseOpt_ldh s hne hl] at hh
    obtain ⟨hxn, hh⟩ := else_of_ite_eq hh nofun
    obtain ⟨_, hh⟩ | ⟨he, hh⟩ := ite_eq_cases hh
    · obtain ⟨n, hn, rfl⟩ := Option.map_eq_some_iff.mp hh
      exact parseIpv4_lt hn
    · injection hh with hh
      subst hh
      refine ⟨by simpa using hne, List.all_eq_true.mpr fun c hc => ?_, by simpa using hxn, by simpa using he⟩
      obtain ⟨a, ha, rfl⟩ := List.mem_map.mp hc
      exact (ldh_facts a (hl a ha)).2.2.1

/-- Text of lower-case LDH characters has no line feed for the `HOST:PORT` pattern to stumble on and
no colon, so the pair reader leaves it unbracketed. -/
theorem lower_text_round {t : List Char} {h : Host} (hall : t.all isLdhLower = true) (hp : hostParseOpt t = some h) :
    t.contains '\n' = false ∧ hostParseOpt (if t.contains ':' then ['['] ++ t ++ [']'] else t) = some h :=
  ⟨contains_false_of_all hall (by decide), by
    rw [contains_false_of_all hall (by decide : isLdhLower ':' = false)]; exact hp⟩

/-- **Every well-formed host is printed, by url's printer and (bracketed again by the pair reader
when it holds a colon) by std's, as text that parses back to it; url's text has no line feed.** -/
theorem hostOk_show_parses (h : Host) (hh : HostOk h) :
    hostParseOpt (hostShowUrl h) = some h ∧ (hostShowUrl h).contains '\n' = false ∧
      hostParseOpt (if (hostShowPair h).contains ':' then ['['] ++ hostShowPair h ++ [']'] else hostShowPair h) =
        some h := by
  cases h with
  | domain d =>
    obtain ⟨hne, hall, hxn, hend⟩ := hh
    have hp : hostParseOpt d = some (.domain d) := by rw [hostParseOpt_lower d hne hall hxn, hend]; rfl
    exact ⟨hp, lower_text_round hall hp⟩
  | ipv4 n =>
    have hp : hostParseOpt (showIpv4 n) = some (.ipv4 n) := by
      rw [hostParseOpt_lower _ (showIpv4_isEmpty n) (showIpv4_lower n) (showIpv4_no_xn n),
        endsInNumber_showIpv4, if_pos rfl, parseIpv4_showIpv4 n hh]
      rfl
    exact ⟨hp, lower_text_round (showIpv4_lower n) hp⟩
  | ipv6 segs =>
    obtain ⟨hl, hs⟩ := hh
    obtain ⟨hc, hstd⟩ := parseIpv6_showStd segs hl hs
    refine ⟨?_, ?_, ?_⟩
    · show hostParseOpt (['['] ++ showIpv6Plain segs ++ [']']) = _
      rw [hostParseOpt_bracket, parseIpv6_show segs hl hs]; rfl
    · show (['['] ++ showIpv6Plain segs ++ [']']).contains '\n' = false
      rw [List.contains_append, List.contains_append,
        contains_false_of_all (showIpv6Plain_chars segs hs) (by decide)]
      rfl
    · show hostParseOpt (if (showIpv6Std segs).contains ':' then ['['] ++ showIpv6Std segs ++ [']']
        else showIpv6Std segs) = _
      rw [if_pos hc, hostParseOpt_bracket, hstd]; rfl

end Imdlv.HostPort
