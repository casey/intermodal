import Imdlv.Model.Walker
namespace Imdlv.C06
open Imdlv.Walker

def names : Entries → List Bytes
  | .nil => []
  | .cons n _ t => n :: names t

end Imdlv.C06

namespace Imdlv.Walker
open Std

/-! ### `compareSpecs` is a lexicographic order ending in the path -/

theorem compareSpecs_nil (a b : FileE) : compareSpecs [] a b = compare a.path b.path := rfl

theorem compareSpecs_cons (s : SortSpec) (t : List SortSpec) (a b : FileE) :
    compareSpecs (s :: t) a b = (specCmp s a b).then (compareSpecs t a b) := by
  simp only [compareSpecs, List.cons_append, List.foldl_cons, Ordering.eq_then]
  -- a fold of the associative `Ordering.then` may start from its first term
  rw [← List.foldl_map (f := (specCmp · a b)) (g := Ordering.then),
    ← List.foldl_map (f := (specCmp · a b)) (g := Ordering.then),
    ← List.foldl_assoc (op := Ordering.then), Ordering.then_eq]

instance specCmp_trans (s : SortSpec) : TransCmp (specCmp s) := by
  obtain ⟨k, o⟩ := s
  have asc : TransCmp (specCmp ⟨k, .ascending⟩) := by
    cases k
    · exact inferInstanceAs (TransCmp (compareOn FileE.path))
    · exact inferInstanceAs (TransCmp (compareOn FileE.size))
  cases o
  · exact asc
  · -- descending is ascending with the arguments exchanged
    have : specCmp ⟨k, .descending⟩ = fun a b => specCmp ⟨k, .ascending⟩ b a :=
      funext fun a => funext fun b => (OrientedCmp.eq_swap (cmp := specCmp ⟨k, .ascending⟩)).symm
    rw [this]; exact TransCmp.opposite

instance compareSpecs_trans : (specs : List SortSpec) → TransCmp (compareSpecs specs)
  | [] => inferInstanceAs (TransCmp (compareOn FileE.path))
  | s :: t => by
    have := compareSpecs_trans t
    have : compareSpecs (s :: t) = compareLex (specCmp s) (compareSpecs t) :=
      funext fun a => funext fun b => compareSpecs_cons s t a b
    rw [this]; infer_instance

theorem le_trans (specs : List SortSpec) (a b c : FileE) (h1 : le specs a b = true) (h2 : le specs b c = true) :
    le specs a c = true :=
  TransCmp.isLE_trans (cmp := compareSpecs specs) h1 h2

theorem le_total (specs : List SortSpec) (a b : FileE) : (le specs a b || le specs b a) = true := by
  cases h : le specs a b
  · exact congrArg Ordering.isLE (OrientedCmp.lt_of_not_isLE (cmp := compareSpecs specs) (ne_true_of_eq_false h))
  · rfl

/-- the appended default makes equal-comparing entries have equal paths -/
theorem path_eq_of_compareSpecs_eq {a b : FileE} : ∀ specs, compareSpecs specs a b = .eq → a.path = b.path
  | [], h => LawfulEqOrd.eq_of_compare h
  | s :: t, h => path_eq_of_compareSpecs_eq t (Ordering.then_eq_eq.1 (compareSpecs_cons s t a b ▸ h)).2

theorem le_antisymm_path (specs : List SortSpec) (a b : FileE) (h1 : le specs a b = true) (h2 : le specs b a = true) :
    a.path = b.path :=
  path_eq_of_compareSpecs_eq specs (OrientedCmp.isLE_antisymm h1 h2)

theorem eq_of_nodup_map {α β : Type} {f : α → β} {l : List α} (h : (l.map f).Nodup) :
    ∀ ⦃a⦄, a ∈ l → ∀ ⦃b⦄, b ∈ l → f a = f b → a = b :=
  have h := List.pairwise_map.1 h
  List.Pairwise.forall_of_forall_of_flip (fun _ _ _ => rfl) (h.imp fun ne e => absurd e ne)
    (h.imp fun ne e => absurd e.symm ne)

theorem find?_reverse_none {π : Type} {m : π → List Bytes → Bool} {path : List Bytes} {l : List (Pattern π)}
    (h : ∀ q ∈ l, m q.glob path = false) : l.reverse.find? (fun p => m p.glob path) = none :=
  List.find?_eq_none.2 fun q hq => by simp [h q (List.mem_reverse.1 hq)]

mutual
theorem mem_walkNode (fl : Flags) (path : List Bytes) :
    (n : Node) → ∀ e ∈ walkNode fl path n, ∃ suffix, e.path = path ++ suffix ∧
      (fl.includeHidden = false → ∀ c ∈ suffix, isHidden c = false)
  | .file s => fun e he => ⟨[], by rw [List.mem_singleton.1 he, List.append_nil], nofun⟩
  | .linkFile s => fun e he =>
    ⟨[], by rw [List.mem_singleton.1 (List.mem_ite_nil_right.1 he).2, List.append_nil], nofun⟩
  | .dir es => fun e he =>
    let ⟨n, _, suffix, h⟩ := mem_walkEntries fl path es e he
    ⟨n :: suffix, h⟩
  | .linkDir es => fun e he =>
    let ⟨n, _, suffix, h⟩ := mem_walkEntries fl path es e (List.mem_ite_nil_right.1 he).2
    ⟨n :: suffix, h⟩
  | .other => nofun
theorem mem_walkEntries (fl : Flags) (pre : List Bytes) :
    (es : Entries) → ∀ e ∈ walkEntries fl pre es, ∃ n ∈ C06.names es, ∃ suffix, e.path = pre ++ n :: suffix ∧
      (fl.includeHidden = false → ∀ c ∈ n :: suffix, isHidden c = false)
  | .nil => nofun
  | .cons name n t => fun e he => by
    rcases List.mem_append.1 he with he | he
    · obtain ⟨hvis, he⟩ := List.mem_ite_nil_left.1 he
      obtain ⟨suffix, hs, hall⟩ := mem_walkNode fl (pre ++ [name]) n e he
      refine ⟨name, List.mem_cons_self, suffix, hs.trans (List.append_assoc ..), fun h c hc => ?_⟩
      rcases List.mem_cons.1 hc with rfl | hc
      · simpa [h] using hvis
      · exact hall h c hc
    · obtain ⟨n', hn', h⟩ := mem_walkEntries fl pre t e he
      exact ⟨n', List.mem_cons_of_mem _ hn', h⟩
end

theorem perm_ite {α : Type} {c : Prop} [Decidable c] {a a' b b' : List α} (ha : a.Perm a') (hb : b.Perm b') :
    (if c then a else b).Perm (if c then a' else b') := by
  split <;> assumption

end Imdlv.Walker
