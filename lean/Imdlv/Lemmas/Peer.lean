import Imdlv.Model.Peer
import Imdlv.Lemmas.Tracker
namespace Imdlv.Peer
open Imdlv

/-- The model has the big-endian codec twice: `Peer.ofBE` is `Tracker.ofBE` word for word, and `toBE4` is
`Tracker.toBE 4` with `256 ^ 1`, `256 ^ 0` evaluated. -/
theorem toBE4_eq (n : Nat) : toBE4 n = Tracker.toBE 4 n := by
  simp only [toBE4, Tracker.toBE, Nat.pow_zero, Nat.div_one, Nat.pow_one]

theorem ofBE_toBE4 (n : Nat) (h : n < 2 ^ 32) : ofBE (toBE4 n) = n :=
  toBE4_eq n ▸ (Tracker.ofBE_toBE 4 n).trans (Nat.mod_eq_of_lt h)

theorem toBE4_length (n : Nat) : (toBE4 n).length = 4 := rfl

theorem recv_keepalive (fuel : Nat) (s : Bytes) : recv (fuel + 1) (keepAlive ++ s) = recv fuel s := by
  have hl : ¬ (keepAlive ++ s).length < 4 := Nat.not_lt.mpr (Nat.le_add_left 4 s.length)
  rw [recv, if_neg hl]
  exact if_pos rfl -- the length prefix reads 0

/-- a length prefix `1 + k` announces an id byte and `k` bytes of payload -/
theorem recv_prefix (fuel k : Nat) (id : UInt8) (r : Bytes) (h : 1 + k < 2 ^ 32) :
    recv (fuel + 1) (toBE4 (1 + k) ++ id :: r) =
      if k = 0 then some (⟨id, none⟩, r) else some (⟨id, some (r.take k)⟩, r.drop k) := by
  have hl : ¬ (toBE4 (1 + k) ++ id :: r).length < 4 := by simp [toBE4_length]
  rw [recv, if_neg hl]
  simp only [List.take_left' (toBE4_length _), List.drop_left' (toBE4_length _), ofBE_toBE4 _ h,
    Nat.add_sub_cancel_left, Nat.add_eq_left, Nat.add_eq_zero_iff, Nat.succ_ne_zero, false_and, if_false]

/-- what `recv` reads back as itself (`recv_frame`): an empty payload would come back as `none` -/
def Framed (m : Msg) : Prop := ∀ p, m.payload = some p → 0 < p.length ∧ p.length + 1 < 2 ^ 32

theorem recv_frame (fuel : Nat) (m : Msg) (rest : Bytes) (hlen : Framed m) :
    recv (fuel + 1) (frame m ++ rest) = some (m, rest) := by
  obtain ⟨id, _ | p⟩ := m
  · exact recv_prefix fuel 0 id rest (by decide)
  · obtain ⟨hpos, hb⟩ := hlen p rfl
    have := recv_prefix fuel p.length id (p ++ rest) (Nat.add_comm .. ▸ hb)
    rw [if_neg (Nat.ne_of_gt hpos), List.take_left, List.drop_left] at this
    simpa [frame] using this

/-- every message read consumes at least its length prefix and its id byte -/
theorem recv_length {f : Nat} {s : Bytes} {m : Msg} {rest : Bytes} :
    recv f s = some (m, rest) → rest.length + 5 ≤ s.length := by
  fun_induction recv f s <;> intro h
  case case3 r _ ih => -- keep-alive
    have : r.length = _ := List.length_drop ..
    have := ih h; omega
  case case5 r _ _ _ hr _ => -- no payload
    have : r.length = _ := List.length_drop ..
    cases h; rw [hr, List.length_cons] at this; omega
  case case6 r _ _ _ hr _ => -- payload
    have : r.length = _ := List.length_drop ..
    cases h; rw [hr, List.length_cons] at this; rw [List.length_drop]; omega
  all_goals cases h

/-- once the fuel exceeds a quarter of the stream, more fuel changes nothing: fuel only bounds the
number of consecutive keep-alives, and each of those consumes four bytes -/
theorem recv_fuel : ∀ (f : Nat) (s : Bytes), s.length < 4 * f → ∀ k, recv (f + k) s = recv f s
  | 0, s, h, k => by omega
  | f + 1, s, h, k => by
    rw [Nat.add_right_comm, recv, recv]
    by_cases hl : s.length < 4
    · rw [if_pos hl, if_pos hl]
    · dsimp only
      rw [recv_fuel f (s.drop 4) (by rw [List.length_drop]; omega) k]

theorem checkHandshake_honest (t : Bytes) (reserved peerId : Bytes) (ht : t.length = 20) (hr : reserved.length = 8)
    (hbit : reserved.getD 5 0 &&& UInt8.ofNat Consts.extensionBit ≠ 0) (hp : peerId.length = 20) :
    checkHandshake t (Consts.peerHeader ++ reserved ++ t ++ peerId) = .ok () := by
  have hh : Consts.peerHeader.length = 20 := rfl
  simpa [checkHandshake, drop_append_of_length_le, List.take_left', hh, hr, ht, hp, Consts.peerHandshakeLen] using hbit

/-! ## what a peer may interleave -/

inductive Item where
  | keepAlive
  | msg (m : Msg)

def wire : List Item → Bytes
  | [] => []
  | .keepAlive :: t => keepAlive ++ wire t
  | .msg m :: t => frame m ++ wire t

def msgCount : List Item → Nat
  | [] => 0
  | .keepAlive :: t => msgCount t
  | .msg _ :: t => msgCount t + 1

/-- messages the client must ignore: anything that is not an extended message (choke, unchoke, have,
bitfield, …), and extended messages of extensions other than the handshake and ut_metadata -/
def Ignorable (m : Msg) : Prop :=
  Framed m ∧ (m.id.toNat ≠ Consts.extendedFlavour ∨
    ∃ ext body, m.payload = some (ext :: body) ∧ ext.toNat ≠ 0 ∧ ext.toNat ≠ Consts.ownUtMetadataId)

def Noise (l : List Item) : Prop := ∀ m, Item.msg m ∈ l → Ignorable m

section step
variable {ι δ : Type} [DecidableEq δ] (R : Readers ι) (H : Bytes → δ) (target : δ) (c : Client) {m : Msg}

theorem step_ordinary (h : m.id.toNat ≠ Consts.extendedFlavour) : step R H target c m = .continue c :=
  if_pos h

/-- `step` has one exit to `.done`, right behind the hash comparison -/
theorem step_done_authentic {c' : Client} {info : ι} (h : step R H target c m = .done info c') :
    H (R.serialize info) = target := by
  revert h
  fun_cases step R H target c m <;> intro h <;> cases h
  assumption

section extended
variable {ext : UInt8} {body : Bytes} (hid : m.id.toNat = Consts.extendedFlavour) (hp : m.payload = some (ext :: body))
include hid hp

theorem step_foreign (h0 : ext.toNat ≠ 0) (h1 : ext.toNat ≠ Consts.ownUtMetadataId) :
    step R H target c m = .continue c := by
  rw [step, if_neg (not_not_intro hid), hp]
  dsimp only
  rw [if_neg h0, if_neg h1]

theorem step_handshake (hext : ext.toNat = 0) {h : ExtHandshake} (hhs : R.handshake body = some h)
    (hsize : h.metadataSize.isSome) (hut : h.utMetadataId.isSome) :
    step R H target c m = .continue { c with hs := some h, requests := c.requests ++ [0] } := by
  unfold step
  simp only [hid, hp, hext, hhs, ne_eq, not_true_eq_false, if_false, if_true,
    Option.isNone_eq_false_iff.mpr hsize, Option.isNone_eq_false_iff.mpr hut, Bool.false_eq_true]

/-- a `data` message with the expected piece, of admissible length, in a state that knows the size:
what is left of `step` is the three-way comparison with the announced size -/
theorem step_piece (hext : ext.toNat = Consts.ownUtMetadataId) {h : ExtHandshake} {size off : Nat} {ts : Option Nat}
    (hhs : c.hs = some h) (hsize : h.metadataSize = some size)
    (hut : R.utMsg body = some ({ msgType := 1, piece := c.buf.length / Consts.utPieceLength, totalSize := ts }, off))
    (hlen : (body.drop off).length ≤ Consts.utPieceLength) :
    step R H target c m =
      let buf := c.buf ++ body.drop off
      if buf.length = size then
        match R.info buf with
        | none => .fail .infoDeserialize
        | some info =>
          if H (R.serialize info) = target then .done info { c with buf := buf } else .fail .wrongInfohash
      else if buf.length < size then
        .continue { c with buf := buf, requests := c.requests ++ [c.buf.length / Consts.utPieceLength + 1] }
      else .fail .infoLength := by
  have h0 : Consts.ownUtMetadataId ≠ 0 := by decide
  unfold step
  simp only [hid, hp, hext, h0, hhs, hsize, hut, Nat.not_lt.mpr hlen, ne_eq, not_true_eq_false, if_false, if_true]
  rfl

end extended

theorem step_ignorable (h : Ignorable m) : step R H target c m = .continue c := by
  obtain ⟨_, h | ⟨ext, body, hp, h0, h1⟩⟩ := h
  · exact step_ordinary R H target c h
  · by_cases hid : m.id.toNat = Consts.extendedFlavour
    · exact step_foreign R H target c hid hp h0 h1
    · exact step_ordinary R H target c hid

end step

section fetchLoop
variable {ι δ : Type} [DecidableEq δ] (R : Readers ι) (H : Bytes → δ) (target : δ)

/-- the loop has one exit to `.ok`, behind a `.done` step -/
theorem fetchLoop_authentic {fuel : Nat} {c : Client} {s : Bytes} {info : ι} {reqs : List Nat} :
    fetchLoop R H target fuel c s = .ok info reqs → H (R.serialize info) = target := by
  fun_induction fetchLoop R H target fuel c s <;> intro h
  case case4 hs => cases h; exact step_done_authentic R H target _ hs -- `.done`
  case case5 ih => exact ih h -- `.continue`
  all_goals cases h

theorem fetchLoop_keepalive (fuel : Nat) (c : Client) (s : Bytes) :
    fetchLoop R H target fuel c (keepAlive ++ s) = fetchLoop R H target fuel c s := by
  cases fuel with
  | zero => rfl
  | succ f =>
    -- `recv` gets the length of the stream as fuel: behind the keep-alive, three more than on `s` itself
    have e : recv ((keepAlive ++ s).length + 1) (keepAlive ++ s) = recv (s.length + 1) s :=
      (recv_keepalive (s.length + 4) s).trans (recv_fuel (s.length + 1) s (by omega) 3)
    rw [fetchLoop, fetchLoop, e]

/-- **Noise is skipped**: keep-alives cost nothing, every ignorable message costs one round and
leaves the client unchanged -/
theorem fetchLoop_noise (c : Client) {noise : List Item} (hn : Noise noise) (F : Nat) (s : Bytes) :
    fetchLoop R H target (msgCount noise + F) c (wire noise ++ s) = fetchLoop R H target F c s := by
  induction noise with
  | nil => simp [wire, msgCount]
  | cons it t ih =>
    have ih := ih fun m hm => hn m (List.mem_cons_of_mem _ hm)
    cases it with
    | keepAlive => rw [wire, msgCount, List.append_assoc, fetchLoop_keepalive, ih]
    | msg m =>
      have hm : Ignorable m := hn m (List.mem_cons_self ..)
      rw [wire, msgCount, List.append_assoc, Nat.add_right_comm, fetchLoop, recv_frame _ m _ hm.1]
      simp only [step_ignorable R H target c hm]
      exact ih

theorem fetchLoop_noise_frame (c : Client) {noise : List Item} (hn : Noise noise) {m : Msg} (hm : Framed m)
    (F : Nat) (rest : Bytes) :
    fetchLoop R H target (msgCount noise + 1 + F) c (wire noise ++ frame m ++ rest) =
      match step R H target c m with
      | .fail e => .error e c.requests
      | .done info c' => .ok info c'.requests
      | .continue c' => fetchLoop R H target F c' rest := by
  rw [Nat.add_assoc, List.append_assoc, fetchLoop_noise R H target c hn, Nat.add_comm 1,
    fetchLoop, recv_frame _ m rest hm]
  rfl

/-- a successful fetch is found with any fuel above a fifth of the stream's length (every round
consumes at least five bytes): `fetch`, which supplies more than the whole length, never fails for
lack of fuel where some amount of fuel succeeds -/
theorem fetchLoop_fuel {f : Nat} {c : Client} {s : Bytes} {info : ι} {r : List Nat} :
    fetchLoop R H target f c s = .ok info r → ∀ f', s.length < 5 * f' → fetchLoop R H target f' c s = .ok info r := by
  fun_induction fetchLoop R H target f c s <;> intro h f' hf'
  case case4 hr _ _ hs => -- `.done`
    obtain ⟨g, rfl⟩ : ∃ g, f' = g + 1 := ⟨f' - 1, by omega⟩
    rw [fetchLoop, hr]; simpa only [hs] using h
  case case5 hr _ hs ih => -- `.continue`
    obtain ⟨g, rfl⟩ : ∃ g, f' = g + 1 := ⟨f' - 1, by omega⟩
    have := recv_length hr
    rw [fetchLoop, hr]; simpa only [hs] using ih h g (by omega)
  all_goals cases h

end fetchLoop

end Imdlv.Peer
