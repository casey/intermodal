import Imdlv.Model.Verifier
import Imdlv.Lemmas.Hasher
/-! `verify` in normal form (`verify_eq`): a refusal that depends on the metainfo alone
(`refusal?`, `verify_error_iff`), or a status that no longer mentions the read schedules; the verdict is
screening and independent recomputation (`succeeds_eq`, `succeeds_iff`) (C02, C03, C13).
`lexWalk` on paths that pass the screening (`lexWalk_normal`, C13). -/
namespace Imdlv.Verifier
open Imdlv Imdlv.Hasher

variable {δ ε : Type}

theorem map_zipIdx_eq_map {α β : Type} {l : List α} {F : α × Nat → β} {G : α → β}
    (h : ∀ x ∈ l.zipIdx, F x = G x.1) : l.zipIdx.map F = l.map G :=
  calc l.zipIdx.map F = l.zipIdx.map (G ∘ Prod.fst) := List.map_congr_left h
    _ = (l.zipIdx.map Prod.fst).map G := List.map_map.symm
    _ = l.map G := by rw [List.zipIdx_map_fst]

theorem map_fst_map_zipIdx {α β γ : Type} (g : α → β) {F : α × Nat → β × γ}
    (hF : ∀ x, (F x).1 = g x.1) (l : List α) : (l.zipIdx.map F).map Prod.fst = l.map g := by
  rw [List.map_map]; exact map_zipIdx_eq_map fun x _ => hF x

theorem getD_map_of_mem_zipIdx {α β : Type} (g : α → β) (d : β) {l : List α} {a : α} {i : Nat}
    (h : (a, i) ∈ l.zipIdx) : (l.map g).getD i d = g a := by
  rw [List.getD_eq_getElem?_getD, List.getElem?_map, List.mem_zipIdx_iff_getElem?.mp h]; rfl

theorem map_eq_or_collision (H : Bytes → δ) {l1 l2 : List Bytes} (h : l1.map H = l2.map H) :
    l1 = l2 ∨ ∃ b1 b2, b1 ∈ l1 ∧ b2 ∈ l2 ∧ b1 ≠ b2 ∧ H b1 = H b2 := by
  induction l1 generalizing l2 with
  | nil => cases l2 with
    | nil => exact .inl rfl
    | cons _ _ => nomatch h
  | cons a t1 ih => cases l2 with
    | nil => nomatch h
    | cons b t2 =>
      obtain ⟨hab, ht⟩ := List.cons.inj h
      by_cases e : a = b
      · rcases ih ht with et | ⟨b1, b2, m1, m2, hne, hh⟩
        · exact .inl (by rw [e, et])
        · exact .inr ⟨b1, b2, List.mem_cons_of_mem _ m1, List.mem_cons_of_mem _ m2, hne, hh⟩
      · exact .inr ⟨a, b, List.mem_cons_self, List.mem_cons_self, e, hab⟩

theorem flatten_map_inj {α : Type} (g g' : α → Bytes) (l : List α)
    (h : (l.map g).flatten = (l.map g').flatten) (hl : ∀ a ∈ l, (g a).length = (g' a).length) :
    ∀ a ∈ l, g a = g' a := by
  induction l with
  | nil => nofun
  | cons a t ih =>
    rw [List.forall_mem_cons] at hl ⊢
    obtain ⟨e1, e2⟩ := List.append_inj (show g a ++ _ = g' a ++ _ from h) hl.1
    exact ⟨e1, ih e2 hl.2⟩

theorem isNormalComp_iff (c : Comp) :
    isNormalComp c = true ↔ c ≠ [] ∧ c ≠ [46] ∧ c ≠ [46, 46] ∧ c.contains 47 = false := by
  simp only [isNormalComp, Bool.and_eq_true, Bool.not_eq_true', bne_iff_ne, ne_eq,
    List.isEmpty_eq_false_iff, and_assoc]

theorem splitSlash_eq (c : Comp) : splitSlash c = splitBy 47 c := by
  unfold splitSlash splitBy; congr; funext b acc; split
  · rfl
  · cases acc <;> rfl

theorem lexWalk_cons_normal (c : Comp) (hc : isNormalComp c = true) (d : Nat) (t : RelPath) :
    lexWalk (some d) (c :: t) = lexWalk (some (d + 1)) t := by
  obtain ⟨h1, h2, h3, h4⟩ := (isNormalComp_iff c).mp hc
  -- `c` is its own single segment, and that is neither `..` nor empty nor `.`
  rw [lexWalk, if_neg (head?_ne_sep h4), splitSlash_eq, splitBy_no_sep h4, List.foldl_cons, List.foldl_nil]
  dsimp only
  rw [if_neg h3, if_neg (not_or.mpr ⟨h1, h2⟩)]

theorem lexWalk_normal (p : RelPath) (h : ∀ c ∈ p, isNormalComp c = true) (d : Nat) :
    lexWalk (some d) p = some (d + p.length) := by
  induction p generalizing d with
  | nil => rfl
  | cons c t ih =>
    rw [List.forall_mem_cons] at h
    rw [lexWalk_cons_normal c h.1, ih h.2, List.length_cons, Nat.add_assoc, Nat.add_comm 1]

/-- The screening of `Verifier::new`: it looks at the metainfo only. -/
def refusal? (t : Torrent δ ε) : Option Refusal :=
  if t.pieceLength ≥ 2 ^ 32 then some .pieceLengthTooLarge
  else if t.pieceLength = 0 then some .pieceLengthZero
  else if (entries t).any (fun f => f.path.any (fun c => !isNormalComp c)) then some .pathComponent
  else none

theorem refusal?_eq_none_iff (t : Torrent δ ε) :
    refusal? t = none ↔ 0 < t.pieceLength ∧ t.pieceLength < 2 ^ 32 ∧
      ∀ f ∈ entries t, ∀ c ∈ f.path, isNormalComp c = true := by
  have hany : ¬ ((entries t).any fun f => f.path.any fun c => !isNormalComp c) = true ↔
      ∀ f ∈ entries t, ∀ c ∈ f.path, isNormalComp c = true := by
    simp only [List.any_eq_true, not_exists, not_and, Bool.not_eq_true', Bool.not_eq_false]
  have g {c : Prop} [Decidable c] {r : Refusal} {x : Option Refusal} : (if c then some r else x) = none ↔ ¬ c ∧ x = none :=
    ite_eq_iff_of_ne nofun
  rw [refusal?, g, g, g, hany, Nat.not_le]
  exact ⟨fun ⟨h1, h0, hn, _⟩ => ⟨Nat.pos_of_ne_zero h0, h1, hn⟩, fun ⟨h0, h1, hn⟩ => ⟨h1, Nat.ne_of_gt h0, hn, rfl⟩⟩

variable [DecidableEq δ] [DecidableEq ε]

theorem hashed_of_file {fs : FS} {p : RelPath} {b : Bytes} (h : fs p = .file b) : hashed fs p = b := by
  rw [hashed, h]

theorem fileOk_iff (H5 : Bytes → ε) (fs : FS) (f : FileEntry ε) :
    fileOk H5 fs f = true ↔
      ∃ b, fs f.path = .file b ∧ b.length = f.length ∧ ∀ e, f.md5 = some e → H5 b = e := by
  unfold fileOk
  cases fs f.path with
  | file b => cases f.md5 <;> simp
  | _ => exact ⟨nofun, nofun⟩

theorem fileError_isNone (H5 : Bytes → ε) (fs : FS) (f : FileEntry ε) :
    (fileError H5 (fs f.path) f.length f.md5).isNone = fileOk H5 fs f := by
  unfold fileError fileOk
  cases fs f.path with
  | file b =>
    rcases Nat.lt_trichotomy b.length f.length with h | h | h
    · simp [h, Nat.lt_asymm h, Nat.ne_of_lt h]
    · cases f.md5 with
      | none => simp [h]
      | some e => by_cases he : H5 b = e <;> simp [h, he]
    · simp [h, Nat.ne_of_gt h]
  | _ => rfl

variable (H : Bytes → δ) (H5 : Bytes → ε) (t : Torrent δ ε) (fs : FS) (scheds : List (List Nat))

theorem verify_eq :
    verify H H5 t fs scheds = match refusal? t with
      | some r => .error r
      | none => .ok {
          piecesOk := decide ((chunks t.pieceLength (concatOf fs (entries t))).map H = t.pieces)
          errors := (entries t).filterMap fun f =>
            (fileError H5 (fs f.path) f.length f.md5).map fun e => (f.path, e) } := by
  unfold verify refusal?
  by_cases h1 : t.pieceLength ≥ 2 ^ 32
  · simp only [if_pos h1]
  by_cases h0 : t.pieceLength = 0
  · simp only [if_neg h1, if_pos h0]
  simp only [if_neg h1, if_neg h0]
  split; · rfl
  rw [hashFiles_eq _ (Nat.pos_of_ne_zero h0), map_fst_map_zipIdx (fun f => hashed fs f.path) (fun _ => rfl)]
  rfl

theorem verify_error_iff (r : Refusal) :
    verify H H5 t fs scheds = .error r ↔ refusal? t = some r := by
  rw [verify_eq]
  cases refusal? t <;> simp

theorem succeeds_eq :
    succeeds H H5 t fs scheds = ((refusal? t).isNone && verifySpec H H5 t fs) := by
  unfold succeeds
  rw [verify_eq]
  cases refusal? t with
  | some r => rfl
  | none =>
    simp only [Status.good, verifySpec, Option.isNone_none, Bool.true_and]
    rw [Bool.and_comm]
    congr 1
    rw [Bool.eq_iff_iff]
    simp only [List.isEmpty_iff, List.filterMap_eq_nil_iff, ← Option.isNone_iff_eq_none,
      Option.isNone_map, fileError_isNone, List.all_eq_true]

variable {H H5 t fs scheds} in
theorem succeeds_iff :
    succeeds H H5 t fs scheds = true ↔
      (0 < t.pieceLength ∧ t.pieceLength < 2 ^ 32 ∧
        ∀ f ∈ entries t, ∀ c ∈ f.path, isNormalComp c = true) ∧ verifySpec H H5 t fs = true := by
  rw [succeeds_eq, Bool.and_eq_true, Option.isNone_iff_eq_none, refusal?_eq_none_iff]

variable {fs} in
theorem verifySpec_congr {fs' : FS} (h : ∀ f ∈ entries t, fs f.path = fs' f.path) :
    verifySpec H H5 t fs = verifySpec H H5 t fs' := by
  have h1 : concatOf fs (entries t) = concatOf fs' (entries t) := by
    unfold concatOf hashed
    rw [List.map_congr_left fun f hf => by rw [h f hf]]
  have h2 : (entries t).all (fileOk H5 fs) = (entries t).all (fileOk H5 fs') := by
    rw [Bool.eq_iff_iff, List.all_eq_true, List.all_eq_true]
    exact forall₂_congr fun f hf => by unfold fileOk; rw [h f hf]
  unfold verifySpec
  rw [h1, h2]

end Imdlv.Verifier
