import Imdlv.Model.Summary
import Imdlv.Props.C04
import Imdlv.Lemmas.LoadRoundTrip
import Imdlv.Lemmas.Load
/-!
# C07 — `torrent show` reports what the file says

The summary is a function of the typed metainfo `m` (what `Load.loadTorrent`
returns: `Lemmas/Load`, `Lemmas/LoadRoundTrip`), the input length and the
stored info span. The tab-delimited rendering is shown to be losslessly
readable back for tab- and newline-free values.
-/
namespace Imdlv.C07
open Imdlv Imdlv.Metainfo Imdlv.Load Imdlv.Summary

/-- **content size = sum of the listed file lengths** (over unbounded naturals) -/
theorem content_size_is_sum (m : MetainfoM) (n : Nat) (s : Bytes) :
    (summary m n s).contentSize = (match m.info.mode with
      | .single len _ => len
      | .multiple fs => (fs.map (·.length)).sum) := by
  show (lengthsOf m.info.mode).sum = _
  cases m.info.mode <;> rfl

/-- **piece count = length of the piece string / 20** -/
theorem piece_count (m : MetainfoM) (n : Nat) (s : Bytes) : (summary m n s).pieceCount = m.info.pieces.length / 20 := rfl

/-- **file count = number of listed files** (1 for a single-file torrent) -/
theorem file_count (m : MetainfoM) (n : Nat) (s : Bytes) :
    (summary m n s).fileCount = (match m.info.mode with | .single _ _ => 1 | .multiple fs => fs.length) := rfl

/-- the file list has one entry per listed file -/
theorem files_length (m : MetainfoM) (n : Nat) (s : Bytes) : (summary m n s).files.length = (summary m n s).fileCount := by
  unfold summary
  cases m.info.mode with
  | single => rfl
  | multiple fs => exact List.length_map _

/-- **torrent size = byte length of the input** -/
theorem torrent_size (m : MetainfoM) (n : Nat) (s : Bytes) : (summary m n s).torrentSize = n := rfl

/-- the scalar fields are exactly the typed fields (absent stays absent) -/
theorem scalar_fields (m : MetainfoM) (n : Nat) (s : Bytes) :
    let r := summary m n s
    r.name = m.info.name ∧ r.comment = m.comment ∧ r.creationDate = m.creationDate ∧ r.createdBy = m.createdBy ∧
    r.source = m.info.source ∧ r.tracker = m.announce ∧ r.updateUrl = m.info.updateUrl ∧
    r.pieceSize = m.info.pieceLength ∧ r.announceList = m.announceList.getD [] ∧
    (r.priv = true ↔ m.info.priv = some true) := by
  refine ⟨rfl, rfl, rfl, rfl, rfl, rfl, rfl, rfl, rfl, ?_⟩
  show m.info.priv.getD false = true ↔ _
  cases m.info.priv with
  | none => exact ⟨nofun, nofun⟩
  | some b => exact ⟨congrArg some, Option.some.inj⟩

/-- **the reported infohash is the hash of the stored info span** (with C04) -/
theorem infohash_of_span (urlOk : Bytes → Bool) (b : Bytes) (m : MetainfoM) (span : Bytes)
    (h : loadTorrent urlOk b = .ok m span) :
    Bencode.findSpan Infohash.infoKey b = some span ∧ (summary m b.length span).infoHashOf = span := by
  obtain ⟨s, hs, hh, _⟩ := C04.infohash_is_span (fun s => s) 2048 b span (Load.loadTorrent_ok h).2.2.2
  exact ⟨hs.trans (congrArg some hh.symm), rfl⟩

/- Path versus standard input: in the model the report is a function of the bytes alone by
construction, so there is nothing to prove here; that the implementation reads the same bytes
from both sources is established by the correspondence check (every case is run both ways). -/

/-- **Loading what was written**: for every typed metainfo value `m` whose strings are text where
serde demands text, whose digests, piece string and integers are in range, whose update URL the
URL parser accepts and whose nodes the host parser accepts (`MetainfoM.Typed`), whose paths are
within the component limit and whose lengths sum within `u64`: the loader accepts `m`'s
serialisation, returns exactly `m` — so every reported field is the field that was written — and
the span it hashes is the encoding of `m`'s info dictionary. Composes C05 (`createMetainfo` is
such an `m`) with this property. -/
theorem load_written (urlOk : Bytes → Bool) (m : MetainfoM) (h : m.Typed urlOk)
    (hpaths : pathsOk m.info.mode = true) (s : Nat) (hsize : contentSize? m.info.mode = some s) :
    loadTorrent urlOk m.serialize = .ok m (Bencode.encode m.info.toBVal) :=
  Metainfo.load_serialize urlOk m h hpaths s hsize

/-- … in particular the typed reader alone (what `verify` and `link` start from), with anything after the file's value -/
theorem read_written (urlOk : Bytes → Bool) (m : MetainfoM) (h : m.Typed urlOk) (r : Bytes) :
    readMetainfo urlOk (m.serialize ++ r) = some (some m) :=
  Metainfo.readMetainfo_serialize urlOk m h r

theorem splitOn_eq : splitOn = splitBy := by
  funext sep s; unfold splitOn splitBy; congr; funext b acc; split
  · rfl
  · cases acc <;> rfl

theorem joinTab_eq : joinTab = joinBy 9 := by
  funext l; fun_induction joinTab l <;> simp only [joinBy, *]

def CleanRow (r : Bytes × List Bytes) : Prop :=
  r.2 ≠ [] ∧ (∀ x ∈ r.1, x ≠ 9 ∧ x ≠ 10) ∧ (∀ c ∈ r.2, ∀ x ∈ c, x ≠ 9 ∧ x ≠ 10)

/-- **The tab-delimited rendering carries the same values field for field**: for rows whose
values contain no tab or newline, an independent reader recovers exactly the rows. -/
theorem tab_roundtrip (rows : List (Bytes × List Bytes)) (h : ∀ r ∈ rows, CleanRow r) :
    parseTab (renderTab rows) = rows := by
  have hclean : ∀ r ∈ rows, ∀ c ∈ r.1 :: r.2, ∀ x ∈ c, x ≠ 9 ∧ x ≠ 10 := fun r hr =>
    List.forall_mem_cons.mpr (h r hr).2
  -- a row's line is the name and the cells joined by tabs. The lines are newline-free, so splitting
  -- at newlines gives them back; each line then splits at its tabs
  have hjoin : ∀ r ∈ rows, r.1 ++ [9] ++ joinTab r.2 = joinBy 9 (r.1 :: r.2) := fun r hr => by
    obtain ⟨c, t, e⟩ := List.exists_cons_of_ne_nil (h r hr).1
    rw [joinTab_eq, e]; rfl
  have hline : ∀ r ∈ rows, (r.1 ++ [9] ++ joinTab r.2).contains 10 = false := fun r hr =>
    hjoin r hr ▸ contains_false_of_ne (joinBy_forall (P := (· ≠ 10)) (by decide) fun c hc x hx => (hclean r hr c hc x hx).2)
  unfold parseTab renderTab
  rw [splitOn_eq, splitBy_terminated (fun r => r.1 ++ [9] ++ joinTab r.2) rows hline, List.dropLast_concat, List.map_map]
  refine (List.map_congr_left fun r hr => ?_).trans (List.map_id rows)
  simp only [Function.comp, hjoin r hr, id,
    splitBy_joinBy (l := r.1 :: r.2) nofun fun c hc => contains_false_of_ne fun x hx => (hclean r hr c hc x hx).1]

example : parseTab (renderTab [([110], [[97], [98]]), ([115], [[49, 50]])]) = [([110], [[97], [98]]), ([115], [[49, 50]])] := by
  decide +kernel
example : pathPush (pathPush [110] [97]) [98] = [110, 47, 97, 47, 98] := by decide +kernel

end Imdlv.C07
