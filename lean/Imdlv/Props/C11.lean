import Imdlv.Lemmas.Peer
import Imdlv.Lemmas.HonestConcrete
/-!
# C11 — metadata fetched from peers is authentic, and honest peers are understood

`incoming` is *every* byte string a peer can send; the typed readers `R`
(serde/bendy) and the hash `H` are arbitrary.
-/
namespace Imdlv.C11
open Imdlv Imdlv.Peer

variable {ι δ : Type} [DecidableEq δ]

/-- **Authentic**: whatever bytes the peer sends, if the fetch succeeds the
accepted dictionary (as it will be written) hashes to the magnet link's infohash. -/
theorem authentic (R : Readers ι) (H : Bytes → δ) (H20 : δ → Bytes) (target : δ) (incoming : Bytes)
    (info : ι) (reqs : List Nat) (h : fetch R H H20 target incoming = .ok info reqs) :
    H (R.serialize info) = target := by
  unfold fetch at h
  split at h
  · cases h
  · exact fetchLoop_authentic R H target h

/-- **Nothing is written unless the fetch succeeded** — and then only an authentic dictionary. -/
theorem write_only_authentic (R : Readers ι) (H : Bytes → δ) (H20 : δ → Bytes) (target : δ) (incoming : Bytes)
    (wrap : ι → Bytes) (out : Bytes) (h : fromLinkOutput wrap (fetch R H H20 target incoming) = some out) :
    ∃ info, out = wrap info ∧ H (R.serialize info) = target := by
  cases hf : fetch R H H20 target incoming with
  | error e r => simp [hf, fromLinkOutput] at h
  | ok info r =>
    simp only [hf, fromLinkOutput, Option.some.injEq] at h
    exact ⟨info, h.symm, authentic R H H20 target incoming info r hf⟩

theorem no_write_on_failure (wrap : ι → Bytes) (e : FErr) (r : List Nat) :
    fromLinkOutput wrap (Result.error e r : Result ι) = none := rfl

/-- a wrong handshake (header, infohash, missing extension bit, or fewer than 68 bytes) ends the fetch
before any message is read -/
theorem bad_handshake_rejected (R : Readers ι) (H : Bytes → δ) (H20 : δ → Bytes) (target : δ) (incoming : Bytes)
    (e : FErr) (h : checkHandshake (H20 target) (incoming.take Consts.peerHandshakeLen) = .error e) :
    fetch R H H20 target incoming = .error e [] := by
  simp [fetch, h]

/-- messages that are not extended messages never change the client -/
theorem ordinary_messages_ignored (R : Readers ι) (H : Bytes → δ) (target : δ) (c : Client) (m : Msg)
    (h : m.id.toNat ≠ Consts.extendedFlavour) : step R H target c m = .continue c :=
  step_ordinary R H target c h

theorem toBE4_length (n : Nat) : (toBE4 n).length = 4 := Peer.toBE4_length n

/-- **Keep-alives are skipped**: a zero length prefix consumes exactly four bytes -/
theorem recv_keepalive (fuel : Nat) (s : Bytes) : recv (fuel + 1) (keepAlive ++ s) = recv fuel s :=
  Peer.recv_keepalive fuel s

/-- **Framing round trip**: a serialised message followed by anything is received as that message,
leaving exactly the rest — independent of how the bytes were segmented in transit -/
theorem recv_frame (fuel : Nat) (m : Msg) (rest : Bytes) (hlen : ∀ p, m.payload = some p → 0 < p.length ∧ p.length + 1 < 2 ^ 32) :
    recv (fuel + 1) (frame m ++ rest) = some (m, rest) :=
  Peer.recv_frame fuel m rest hlen

/-! ## honest peers are understood

An honest peer (BEP 3/9/10), in the byte-stream model: after its handshake it sends an extension
handshake announcing `metadata_size = |served|` and some `ut_metadata` id, then the pieces
`0, 1, …` of `served` (each at most 16 KiB, the last one shorter or full) as `data` messages, with
any number of keep-alives, ordinary messages and messages of other extensions before, between and
after them. TCP segmentation is invisible to a byte-stream reader, so it does not appear. The words for
what a peer may interleave (`Item`, `wire`, `msgCount`, `Ignorable`, `Noise`) are defined in Lemmas/Peer. -/

/-- the `k`-th metadata piece of `served` -/
def chunk (served : Bytes) (k : Nat) : Bytes := (served.drop (k * Consts.utPieceLength)).take Consts.utPieceLength

def extMsg (ext : Nat) (body : Bytes) : Msg := { id := UInt8.ofNat Consts.extendedFlavour, payload := some (UInt8.ofNat ext :: body) }

/-- what the peer sends for pieces `i, i+1, …, i+n-1`: `noise k` before piece `k`, whose message body is `body k` -/
def piecesFrom (noise : Nat → List Item) (body : Nat → Bytes) : Nat → Nat → Bytes
  | 0, _ => []
  | n + 1, i => wire (noise i) ++ frame (extMsg Consts.ownUtMetadataId (body i)) ++ piecesFrom noise body n (i + 1)

/-- rounds of the fetch loop needed for those pieces -/
def cost (noise : Nat → List Item) : Nat → Nat → Nat
  | 0, _ => 0
  | n + 1, i => msgCount (noise i) + 1 + cost noise n (i + 1)

theorem extMsg_framed {ext : Nat} {body : Bytes} (h : body.length + 2 < 2 ^ 32) : Framed (extMsg ext body) := by
  intro p hp
  cases hp
  exact ⟨Nat.succ_pos _, h⟩

private theorem take_succ_chunk (served : Bytes) (k : Nat) :
    served.take (k * Consts.utPieceLength) ++ chunk served k = served.take ((k + 1) * Consts.utPieceLength) := by
  unfold chunk
  rw [Nat.add_mul, Nat.one_mul, List.take_add]

theorem chunk_length_le (served : Bytes) (k : Nat) : (chunk served k).length ≤ Consts.utPieceLength :=
  List.length_take_le ..

/-- one data message, received in the state the honest exchange has reached -/
private theorem step_data {R : Readers ι} {H : Bytes → δ} {target : δ} {served : Bytes} {info : ι} {h : ExtHandshake}
    (hsize : h.metadataSize = some served.length)
    (hinfo : R.info served = some info) (hhash : H (R.serialize info) = target)
    {k : Nat} (hk : k * Consts.utPieceLength < served.length)
    {c : Client} (hbuf : c.buf = served.take (k * Consts.utPieceLength)) (hhs : c.hs = some h)
    {body : Bytes} {ts : Option Nat} {off : Nat}
    (hut : R.utMsg body = some ({ msgType := 1, piece := k, totalSize := ts }, off)) (hdata : body.drop off = chunk served k) :
    step R H target c (extMsg Consts.ownUtMetadataId body) =
      if served.length ≤ (k + 1) * Consts.utPieceLength then .done info { c with buf := served }
      else .continue { c with buf := served.take ((k + 1) * Consts.utPieceLength), requests := c.requests ++ [k + 1] } := by
  have hpiece : c.buf.length / Consts.utPieceLength = k := by
    rw [hbuf, List.length_take, Nat.min_eq_left (Nat.le_of_lt hk)]; exact Nat.mul_div_cancel k (by decide)
  -- the buffer grows from `take (k·16 KiB)` to `take ((k+1)·16 KiB)`; what `step_piece` leaves is
  -- whether that is all of `served`
  rw [step_piece R H target c (m := extMsg _ body) rfl rfl rfl hhs hsize (hpiece ▸ hut) (hdata ▸ chunk_length_le served k),
    hpiece, hdata, hbuf, take_succ_chunk]
  by_cases hlast : served.length ≤ (k + 1) * Consts.utPieceLength
  · simp only [List.take_of_length_le hlast, if_true, hinfo, hhash, hlast]
  · have : (served.take ((k + 1) * Consts.utPieceLength)).length < served.length := by
      rw [List.length_take]; omega
    simp only [Nat.ne_of_lt this, this, hlast, if_false, if_true]

/-- the data phase: from the state reached after `i` correct pieces, the remaining pieces — with
arbitrary ignorable traffic in between — complete the fetch -/
theorem pieces_complete (R : Readers ι) (H : Bytes → δ) (target : δ) (served : Bytes) (info : ι) (h : ExtHandshake)
    (hsize : h.metadataSize = some served.length)
    (hinfo : R.info served = some info) (hhash : H (R.serialize info) = target)
    (noise : Nat → List Item) (body : Nat → Bytes) (ts : Nat → Option Nat) (off : Nat → Nat)
    (hnoise : ∀ k, Noise (noise k)) (N : Nat)
    (hframed : ∀ k, k < N → (body k).length + 2 < 2 ^ 32)
    (hut : ∀ k, k < N → R.utMsg (body k) = some ({ msgType := 1, piece := k, totalSize := ts k }, off k))
    (hdata : ∀ k, k < N → (body k).drop (off k) = chunk served k) :
    ∀ (n i : Nat) (c : Client) (tail : Bytes) (F : Nat), i + n ≤ N →
      0 < n → (i + n - 1) * Consts.utPieceLength < served.length → served.length ≤ (i + n) * Consts.utPieceLength →
      c.buf = served.take (i * Consts.utPieceLength) → c.hs = some h →
      fetchLoop R H target (cost noise n i + F) c (piecesFrom noise body n i ++ tail)
        = .ok info (c.requests ++ (List.range' (i + 1) (n - 1))) := by
  intro n
  induction n with
  | zero => intro _ _ _ _ _ h0; cases h0
  | succ n ih =>
    intro i c tail F hN _ hlo hhi hbuf hhs
    -- arithmetic by terms of the exact shape (`i + (n + 1) - 1` computes to `i + n`): `omega` is slow in this context,
    -- and a shape that fits only up to arithmetic sends the unifier into evaluating `· * 16384`
    have hi : i < N := Nat.lt_of_lt_of_le (Nat.lt_add_of_pos_right (Nat.succ_pos n)) hN
    have hk : i * Consts.utPieceLength < served.length :=
      Nat.lt_of_le_of_lt (Nat.mul_le_mul_right _ (Nat.le_add_right i n)) hlo
    rw [piecesFrom, cost, List.append_assoc, Nat.add_assoc,
      fetchLoop_noise_frame R H target c (hnoise i) (extMsg_framed (hframed i hi)),
      step_data hsize hinfo hhash hk hbuf hhs (hut i hi) (hdata i hi)]
    -- `hlo`, `hhi` make piece `i` the last one exactly when `n = 0`
    cases n with
    | zero => rw [if_pos hhi]; exact congrArg _ (List.append_nil _).symm
    | succ n =>
      have hlast : ¬ served.length ≤ (i + 1) * Consts.utPieceLength :=
        Nat.not_le.mpr (Nat.lt_of_le_of_lt (Nat.mul_le_mul_right _ (Nat.succ_le_succ (Nat.le_add_right i n))) hlo)
      rw [if_neg hlast]
      -- the pieces from `i + 1` on: `i + (n + 1 + 1)` is `i + 1 + (n + 1)`
      rw [← Nat.add_assoc, Nat.add_right_comm] at hN hlo hhi
      exact (ih (i + 1) { c with buf := served.take ((i + 1) * Consts.utPieceLength), requests := c.requests ++ [i + 1] }
        tail F hN (Nat.succ_pos n) hlo hhi rfl hhs).trans (congrArg _ (List.append_assoc ..))

def pieceCount (served : Bytes) : Nat := (served.length + Consts.utPieceLength - 1) / Consts.utPieceLength

theorem pieceCount_le (served : Bytes) : pieceCount served ≤ served.length := by
  have hP : Consts.utPieceLength = 16384 := rfl
  unfold pieceCount; rw [hP]; omega

theorem pieceCount_spec (served : Bytes) (hpos : 0 < served.length) :
    0 < pieceCount served ∧ (pieceCount served - 1) * Consts.utPieceLength < served.length ∧
      served.length ≤ pieceCount served * Consts.utPieceLength := by
  have hP : Consts.utPieceLength = 16384 := rfl
  unfold pieceCount; rw [hP]; omega

/-- **Honest peers are understood**: for every non-empty info dictionary that the typed reader
accepts and re-serialises to the hash of the link, every metadata size (one to many 16 KiB pieces,
exact multiples included), every extension-id assignment (the peer's own ids never appear in what it
sends to us, ours is fixed), and every interleaving of keep-alives, ordinary messages and foreign
extension messages before, between and after the relevant ones, the fetch succeeds, returns that
dictionary, and has requested exactly the pieces `0 … n-1` in order. -/
theorem honest_complete (R : Readers ι) (H : Bytes → δ) (target : δ) (served : Bytes) (info : ι) (h : ExtHandshake)
    (hpos : 0 < served.length)
    (hsize : h.metadataSize = some served.length) (hid : h.utMetadataId.isSome = true)
    (hinfo : R.info served = some info) (hhash : H (R.serialize info) = target)
    (pre : List Item) (hsBody : Bytes) (hpre : Noise pre) (hhsFramed : hsBody.length + 2 < 2 ^ 32)
    (hhs : R.handshake hsBody = some h)
    (noise : Nat → List Item) (body : Nat → Bytes) (ts : Nat → Option Nat) (off : Nat → Nat)
    (hnoise : ∀ k, Noise (noise k))
    (hframed : ∀ k, k < pieceCount served → (body k).length + 2 < 2 ^ 32)
    (hut : ∀ k, k < pieceCount served → R.utMsg (body k) = some ({ msgType := 1, piece := k, totalSize := ts k }, off k))
    (hdata : ∀ k, k < pieceCount served → (body k).drop (off k) = chunk served k)
    (tail : Bytes) (F : Nat) :
    fetchLoop R H target (msgCount pre + 1 + cost noise (pieceCount served) 0 + F) Client.init
        (wire pre ++ frame (extMsg 0 hsBody) ++ piecesFrom noise body (pieceCount served) 0 ++ tail)
      = .ok info (List.range (pieceCount served)) := by
  obtain ⟨hn, hlo, hhi⟩ := pieceCount_spec served hpos
  rw [List.append_assoc, Nat.add_assoc, fetchLoop_noise_frame R H target _ hpre (extMsg_framed hhsFramed),
    step_handshake R H target _ (m := extMsg 0 hsBody) rfl rfl rfl hhs (by rw [hsize]; rfl) hid]
  refine (pieces_complete R H target served info h hsize hinfo hhash noise body ts off hnoise _ hframed hut hdata
    _ 0 _ tail F (Nat.le_of_eq (Nat.zero_add _)) hn (by rwa [Nat.zero_add]) (by rwa [Nat.zero_add]) rfl rfl).trans ?_
  obtain ⟨n, hn⟩ : ∃ n, pieceCount served = n + 1 := ⟨_, (Nat.succ_pred_eq_of_pos hn).symm⟩
  rw [hn, List.range_eq_range', List.range'_succ]
  rfl

/-- **Honest peers are understood, whole connection**: the same for `fetch` itself — the peer's
68-byte handshake followed by the honest stream and anything after it — with the fuel `fetch` uses. -/
theorem honest_fetch (R : Readers ι) (H : Bytes → δ) (H20 : δ → Bytes) (target : δ) (served : Bytes) (info : ι) (h : ExtHandshake)
    (reserved peerId : Bytes) (ht : (H20 target).length = 20) (hr : reserved.length = 8)
    (hbit : reserved.getD 5 0 &&& UInt8.ofNat Consts.extensionBit ≠ 0) (hp : peerId.length = 20)
    (hpos : 0 < served.length)
    (hsize : h.metadataSize = some served.length) (hid : h.utMetadataId.isSome = true)
    (hinfo : R.info served = some info) (hhash : H (R.serialize info) = target)
    (pre : List Item) (hsBody : Bytes) (hpre : Noise pre) (hhsFramed : hsBody.length + 2 < 2 ^ 32)
    (hhs : R.handshake hsBody = some h)
    (noise : Nat → List Item) (body : Nat → Bytes) (ts : Nat → Option Nat) (off : Nat → Nat)
    (hnoise : ∀ k, Noise (noise k))
    (hframed : ∀ k, k < pieceCount served → (body k).length + 2 < 2 ^ 32)
    (hut : ∀ k, k < pieceCount served → R.utMsg (body k) = some ({ msgType := 1, piece := k, totalSize := ts k }, off k))
    (hdata : ∀ k, k < pieceCount served → (body k).drop (off k) = chunk served k)
    (tail : Bytes) :
    fetch R H H20 target
        ((Consts.peerHeader ++ reserved ++ H20 target ++ peerId) ++
          (wire pre ++ frame (extMsg 0 hsBody) ++ piecesFrom noise body (pieceCount served) 0 ++ tail))
      = .ok info (List.range (pieceCount served)) := by
  have hlen68 : (Consts.peerHeader ++ reserved ++ H20 target ++ peerId).length = Consts.peerHandshakeLen := by
    simp only [List.length_append, hr, ht, hp]; rfl
  rw [fetch, List.take_left' hlen68, List.drop_left' hlen68, checkHandshake_honest (H20 target) reserved peerId ht hr hbit hp]
  refine fetchLoop_fuel R H target (honest_complete R H target served info h hpos hsize hid hinfo hhash pre hsBody
    hpre hhsFramed hhs noise body ts off hnoise hframed hut hdata tail 0) _ ?_
  rw [List.length_append (as := _ ++ peerId)]; omega

/-- **Honest peers are understood — concrete readers**: for every info dictionary `i` made of the keys
imdl models (`InfoM.Typed`: UTF-8 text, 16-byte MD5 digests, `pieces` a multiple of 20, sizes in
range, update URL accepted by the URL parser), served as its canonical encoding by a peer that writes
the extension handshake and the data headers as canonical bencode, with any `ut_metadata` id below
256, the model's client (`readersC`) fetches exactly `i`; the link's hash is the hash of the served
bytes. No hypothesis about the readers is left — only the hash function is abstract. -/
theorem honest_fetch_concrete (urlOk : Bytes → Bool) (H : Bytes → δ) (H20 : δ → Bytes) (i : Metainfo.InfoM)
    (hi : i.Typed urlOk) (k : Nat) (hk : k < 256)
    (hbig : (Bencode.encode i.toBVal).length < 2 ^ 31)
    (reserved peerId : Bytes) (ht : (H20 (H (Bencode.encode i.toBVal))).length = 20) (hr : reserved.length = 8)
    (hbit : reserved.getD 5 0 &&& UInt8.ofNat Consts.extensionBit ≠ 0) (hp : peerId.length = 20)
    (pre : List Item) (hpre : Noise pre) (noise : Nat → List Item) (hnoise : ∀ j, Noise (noise j)) (tail : Bytes) :
    let served := Bencode.encode i.toBVal
    fetch (readersC urlOk) H H20 (H served)
        ((Consts.peerHeader ++ reserved ++ H20 (H served) ++ peerId) ++
          (wire pre ++ frame (extMsg 0 (hsBodyOf k served.length)) ++
            piecesFrom noise (fun j => utBodyOf j served.length (chunk served j)) (pieceCount served) 0 ++ tail))
      = .ok i (List.range (pieceCount served)) := by
  intro served
  have hpos : 2 ≤ served.length := Bencode.encode_length_ge i.toBVal
  have hlen63 : served.length < 2 ^ 63 := Nat.lt_trans hbig (by decide)
  have hj : ∀ j, j < pieceCount served → j < 2 ^ 63 := fun j hj =>
    Nat.lt_trans (Nat.lt_of_lt_of_le hj (pieceCount_le served)) hlen63
  unfold readersC
  refine honest_fetch _ H H20 _ served i ⟨some served.length, some k⟩ reserved peerId
    ht hr hbit hp (by omega) rfl rfl ?_ rfl pre _ hpre ?_ ?_
    noise _ (fun _ => some served.length) (fun j => (Bencode.encode (.dict (utDict j served.length))).length) hnoise ?_ ?_
    (fun j _ => utBody_drop j _ _) tail
  -- `dsimp only` reduces the projections of the reader record; left to unification, they are compared
  -- by unfolding the readers
  · dsimp only; exact Metainfo.readInfoC_toBVal urlOk i hi
  · have := hsBody_length k served.length (by omega) hlen63; omega
  · have := readHandshakeC_honest k served.length hk hlen63 []
    rw [List.append_nil] at this; dsimp only; exact this
  · intro j hj'
    have := utHeader_length j served.length (hj j hj') hlen63
    have : (chunk served j).length ≤ 16384 := chunk_length_le served j
    rw [utBodyOf, List.length_append]; omega
  · intro j hj'; dsimp only; exact readUtMsgC_honest j _ (hj j hj') hlen63 _

example : recv 5 ([0,0,0,0] ++ [0,0,0,0] ++ [0,0,0,3, 20, 7, 8] ++ [9]) = some (⟨20, some [7, 8]⟩, [9]) := by
  decide +kernel

/-- the hypotheses of `honest_complete` are satisfiable: a three-byte dictionary served in one piece,
behind a keep-alive, a choke and a foreign extension message, with trivial readers -/
def toyReaders : Readers Bytes :=
  { handshake := fun _ => some { metadataSize := some 3, utMetadataId := some 7 },
    utMsg := fun _ => some ({ msgType := 1, piece := 0, totalSize := none }, 0),
    info := fun b => some b, serialize := fun b => b }
example :
    (match fetchLoop toyReaders (fun b => b) [1, 2, 3] 10 Client.init
      (wire [.keepAlive, .msg ⟨0, none⟩, .msg ⟨20, some [9, 1]⟩] ++ frame (extMsg 0 [100]) ++
        (wire [.keepAlive] ++ frame (extMsg Consts.ownUtMetadataId [1, 2, 3])) ++ [0, 0]) with
      | .ok i r => i == [1, 2, 3] && r == [0]
      | .error _ _ => false) = true := by
  decide +kernel

end Imdlv.C11
