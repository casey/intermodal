import Imdlv.Lemmas.Lints
/-!
# C15 — automatic piece length is a sane power of two and never decreases

`pick = pickWith clog2`; the code computes the exponent with `f64`
(`ceil(log2(n as f64))`), which is inexact above 2^49; `pick_insensitive` shows
any exponent function that is right up to 2^40 and at least 40 above gives the
same result for every `n`, so only the (exhaustively checked) small exponents matter.
-/
namespace Imdlv.C15
open Imdlv.Lints

/-- the extracted constants are the published ones -/
theorem consts_published :
    Consts.pickerDiv = 2 ∧ Consts.pickerOff = 4 ∧ Consts.pickerMinKiB = 16 ∧ Consts.pickerMaxMiB = 16 ∧
    Consts.tableFrom = 14 ∧ Consts.tableTo = 51 := by decide

/-- **Bounds**: between 16 KiB and 16 MiB inclusive, for every content size. -/
theorem pick_bounds (n : Nat) : 16 * 1024 ≤ pick n ∧ pick n ≤ 16 * 1024 * 1024 := by
  rw [pick, pickWith_eq]
  exact ⟨Nat.le_min.mpr ⟨Nat.le_max_right _ _, by decide⟩, Nat.min_le_right _ _⟩

/-- **Power of two**, for every content size. -/
theorem pick_pow2 (n : Nat) : ∃ k, pick n = 2 ^ k := ⟨_, pickWith_eq_pow clog2 n⟩

/-- **Monotone**: never decreases as the content grows. -/
theorem pick_mono {m n : Nat} (h : m ≤ n) : pick m ≤ pick n :=
  pickWith_mono clog2 (fun _ _ => clog2_mono) h

/-- **Table at powers of two**: `pick (2^k) = clamp (2^(k/2+4))`. -/
theorem pick_two_pow (k : Nat) : pick (2 ^ k) = min (max (2 ^ (k / 2 + 4)) (2 ^ 14)) (2 ^ 24) := by
  rw [pick, pickWith_eq, Nat.max_eq_left (Nat.two_pow_pos k), clog2_two_pow]

/-- 16 KiB up to 2 MiB of content -/
theorem table_low (k : Nat) (h : k ≤ 21) : pick (2 ^ k) = 16 * 1024 := by
  rw [pick_two_pow, clamp_two_pow, Nat.max_eq_right (by omega), Nat.min_eq_left (by decide)]

/-- then doubling with every fourfold growth -/
theorem table_mid (k : Nat) (h1 : 20 ≤ k) (h2 : k ≤ 40) : pick (2 ^ k) = 2 ^ (k / 2 + 4) := by
  rw [pick_two_pow, clamp_two_pow, Nat.max_eq_left (by omega), Nat.min_eq_left (by omega)]

/-- 16 MiB from 1 TiB on -/
theorem table_high (n : Nat) (h : 2 ^ 40 ≤ n) : pick n = 16 * 1024 * 1024 := by
  have : clog2 (2 ^ 40) ≤ clog2 (max n 1) := clog2_mono (Nat.le_trans h (Nat.le_max_left n 1))
  rw [clog2_two_pow] at this
  exact pickWith_high clog2 n this

/-- the 37 rows printed by `imdl torrent piece-length` / published in the book -/
theorem pick_table : table.map (fun r => (Nat.log2 r.1, Nat.log2 r.2)) =
    [(14,14),(15,14),(16,14),(17,14),(18,14),(19,14),(20,14),(21,14),(22,15),(23,15),(24,16),(25,16),
     (26,17),(27,17),(28,18),(29,18),(30,19),(31,19),(32,20),(33,20),(34,21),(35,21),(36,22),(37,22),
     (38,23),(39,23),(40,24),(41,24),(42,24),(43,24),(44,24),(45,24),(46,24),(47,24),(48,24),(49,24),(50,24)] := by
  decide +kernel

theorem table_rows_are_powers : table.all (fun r => 2 ^ Nat.log2 r.1 == r.1 && 2 ^ Nat.log2 r.2 == r.2) = true := by
  decide +kernel

/-- **Float robustness**: any exponent function that agrees with `clog2` up to
2^40 and is at least 40 above it yields the same piece length everywhere. -/
theorem pick_insensitive (e : Nat → Nat)
    (hlow : ∀ n, n ≤ 2 ^ 40 → e n = clog2 n) (hhigh : ∀ n, 2 ^ 40 < n → 40 ≤ e n) :
    ∀ n, pickWith e n = pick n := by
  intro n
  by_cases h : max n 1 ≤ 2 ^ 40
  · rw [pick, pickWith_eq, pickWith_eq, hlow _ h]
  · -- both sides are at the upper clamp
    have h := Nat.not_le.mp h
    rw [pickWith_high e n (hhigh _ h), table_high n (by omega)]

/-- **Consequence for create**: an automatically chosen piece length is never
rejected by the piece-length rules, under the empty allow set. -/
theorem pick_passes_lints (n : Nat) (ann : Bool) :
    createDecision (fun _ => false) (pick n) false ann = .ok (pick n) := by
  obtain ⟨hlo, hhi⟩ := pick_bounds n
  -- no lint is violated: not private, at least 16 KiB (`pick_bounds`), a power of two (`pick_pow2`)
  refine createDecision_ok ⟨by omega, by omega, fun l hv => ?_⟩
  cases l with
  | privateTrackerless => exact hv
  | smallPieceLength => rw [violated, decide_eq_true_eq] at hv; exact absurd hv (Nat.not_lt.mpr hlo)
  | unevenPieceLength => rw [violated, (isPow2_iff _).mpr (pick_pow2 n), Bool.not_true, Bool.and_false] at hv; exact hv

example : pick 0 = 16384 ∧ pick (2 ^ 22) = 32768 ∧ pick (2 ^ 22 + 1) = 32768 ∧ pick (2 ^ 64 - 1) = 16777216 := by
  decide +kernel

end Imdlv.C15
