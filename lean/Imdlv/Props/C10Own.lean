import Imdlv.Props.C10
/-!
# C10 (own parser) — imdl's magnet parser recovers what the printer put in

`MagnetLink::parse` runs over the pairs `query_pairs` yields (a form-urlencoded parser, i.e.
`stdParse true`). Composed with `link_decodes`: for every link with a 20-byte infohash, whose tracker
texts `Url::parse` accepts and whose peer texts `HostPort::from_str` accepts (parameters `urlOk`,
`peerOk`: both happen *before* the link is built, so every printed link satisfies them), parsing the
printed query gives back exactly the infohash, the name, the trackers in order and the peers in
order. The selection (`so`) is not part of what the parser keeps, as in the code.
-/
namespace Imdlv.C10
open Imdlv Imdlv.Magnet

theorem findTopic_expected (l : Link) (hih : l.infohash.length = 20) :
    findTopic (expectedPairs l) = .ok l.infohash := by
  have k : (b "urn:btih:").length = 9 := by decide +kernel
  have htake : (b "urn:btih:" ++ hexLower l.infohash).take 9 = b "urn:btih:" := k ▸ List.take_left
  have hdrop : (b "urn:btih:" ++ hexLower l.infohash).drop 9 = hexLower l.infohash := k ▸ List.drop_left
  have hlen : (hexLower l.infohash).length = 40 := by rw [hexLower_length, hih]
  simp only [expectedPairs, List.cons_append, List.nil_append, findTopic_cons, htake, hdrop, and_self, if_true, hlen,
    ne_eq, not_true_eq_false, if_false, unhex40_hexLower]

/-- **imdl's own parser recovers infohash, name, trackers and peers** from the printed query,
whichever `+` convention the pair splitter uses. -/
theorem own_parser_recovers (urlOk peerOk : Bytes → Bool) (pa : Bool) (l : Link)
    (hih : l.infohash.length = 20)
    (hu : ∀ t ∈ l.trackers, urlOk t = true) (hp : ∀ x ∈ l.peers, peerOk x = true) :
    parsePairs urlOk peerOk (stdParse pa (toQuery l))
      = .ok { infohash := l.infohash, name := l.name, trackers := l.trackers, peers := l.peers } := by
  rw [link_decodes, parsePairs_eq, findTopic_expected l hih]
  -- the fold over `xt, dn?, tr…, x.pe…, so?`: `xt` and `so` leave the state alone, `dn` sets the name, each `tr`/`x.pe` appends
  have hso : ∀ p : Parsed, (if l.indices.isEmpty then [] else [(b "so", commaJoin (l.indices.map natDigits))]).foldl
      (pstep urlOk peerOk) (.ok p) = .ok p := by
    intro p; split <;> simp only [List.foldl_cons, List.foldl_nil, pstep_so]
  simp only [expectedPairs, List.foldl_append, List.foldl_cons, List.foldl_nil, pstep_xt]
  cases l.name <;>
    simp only [List.foldl_cons, List.foldl_nil, pstep_dn, fold_trackers hu, fold_peers hp, hso,
      List.nil_append]

/-! non-vacuity: the sample link of `Props/C10` has a 20-byte infohash -/
example : (sampleLink).infohash.length = 20 := by decide +kernel

end Imdlv.C10
