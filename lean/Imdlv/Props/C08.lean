import Imdlv.Model.NoPanic
import Imdlv.Lemmas.Bencode
import Imdlv.Lemmas.ByteSize
import Imdlv.Lemmas.Load
import Imdlv.Lemmas.Magnet
/-!
# C08 — no local input can crash imdl (model level)

For every byte string presented as a torrent file. The model carries each
partial Rust operation on the local-input paths as an explicit `panic`
outcome; these theorems show that no pipeline reaches one. The tie to the code
is the panic-site inventory and the differential fuzz on the real binary.

A pipeline is a chain of `Outcome.bind`s, so it is panic-free when every stage is
(`no_panic_bind`); the stages are discharged one by one from what the loader checked.
-/
namespace Imdlv.C08
open Imdlv Imdlv.Bencode Imdlv.Metainfo Imdlv.Load Imdlv.NoPanic

theorem no_panic_bind {α β : Type} {o : Outcome α} {f : α → Outcome β} (ho : o.isPanic = false)
    (hf : ∀ a, o = .ok a → (f a).isPanic = false) : (o.bind f).isPanic = false := by
  cases o with
  | ok a => exact hf a rfl
  | error => rfl
  | panic s => cases ho

theorem decode_nesting_le : ∀ (fuel : Nat),
    (∀ depth l v r, decode fuel depth l = some (v, r) → nesting v ≤ depth) ∧
    (∀ depth l v r, decodeList fuel depth l = some (v, r) → nestingList v ≤ depth) ∧
    (∀ depth last l v r, decodeDict fuel depth last l = some (v, r) → nestingDict v ≤ depth) :=
  decode_induct (P := fun _ d _ v _ => nesting v ≤ d) (PL := fun _ d _ x _ => nestingList x ≤ d)
    (PD := fun _ d _ _ x _ => nestingDict x ≤ d)
    (int := fun _ _ => Nat.zero_le _) (bytes := fun _ _ => Nat.zero_le _)
    (list := Nat.succ_le_succ) (dict := Nat.succ_le_succ)
    (lnil := Nat.zero_le _) (lcons := fun _ _ ih1 ih2 => Nat.max_le.mpr ⟨ih1, ih2⟩)
    (dnil := Nat.zero_le _) (dcons := fun _ _ _ _ ih1 ih2 => Nat.max_le.mpr ⟨ih1, ih2⟩)

/-- **Bounded recursion**: every value the depth-limited decoder returns can be walked
(re-encoded, dropped, dumped) within a stack budget of `depth` frames -/
theorem walk_decoded_no_panic (budget depth : Nat) (hb : depth ≤ budget) (b : Bytes) (v : BVal) (r : Bytes)
    (h : decodeTop depth b = some (v, r)) : walkValue budget v = .ok () :=
  if_pos (Nat.le_trans ((decode_nesting_le _).1 _ _ _ _ h) hb)

/-- **`torrent dump` never panics**, on any byte string -/
theorem dump_no_panic (budget : Nat) (hb : 2048 ≤ budget) (b : Bytes) : (dumpPipeline budget b).isPanic = false := by
  unfold dumpPipeline
  split
  · rfl
  · next v r h => rw [walk_decoded_no_panic budget 2048 hb b v r h]; rfl

/-- the load-time checked sum and the overflow-checked `+=` are one computation: the first fails exactly where the
second panics -/
theorem sumLengths_eq (l : List Nat) : sumLengths l =
    match checkedSum l with
    | some s => .ok s
    | none => .panic "bytes.rs: attempt to add with overflow" := by
  unfold sumLengths checkedSum
  refine List.foldl_hom (fun o : Option Nat => match o with
    | some s => Outcome.ok s
    | none => .panic "bytes.rs: attempt to add with overflow") (init := some 0) fun o x => ?_
  cases o with
  | none => rfl
  | some a => simp only [Option.bind_some, Outcome.bind, addU64]; split <;> rfl

theorem checkedSum_spec (l : List Nat) (s : Nat) (h : checkedSum l = some s) : sumLengths l = .ok s := by
  rw [sumLengths_eq, h]

theorem sumLengths_ok {m : ModeM} {s : Nat} (h : contentSize? m = some s)
    (hsingle : ∀ n md5, m = .single n md5 → n < 2 ^ 64) : sumLengths (lengthsOf m) = .ok s ∧ s < 2 ^ 64 := by
  -- a single file is a sum of one length
  have hc : checkedSum (lengthsOf m) = some s := by
    cases m with
    | single n md5 =>
      obtain rfl := Option.some.inj h
      simp [lengthsOf, checkedSum, hsingle n md5 rfl]
    | multiple fs => exact h
  exact ⟨checkedSum_spec _ s hc, checkedSum_lt hc⟩

/-- after a successful `checked_content_size`, `content_size` cannot overflow -/
theorem content_size_no_panic (m : ModeM) (s : Nat) (h : contentSize? m = some s)
    (hsingle : ∀ n md5, m = .single n md5 → n < 2 ^ 64) :
    (sumLengths (lengthsOf m)).isPanic = false := by
  rw [(sumLengths_ok h hsingle).1]; rfl

/-- `DISPLAY_SUFFIXES[i - 1]` is in range: a `u64`, rounded to a double, is below 1024^7, so `i ≤ 6` -/
theorem displaySize_no_panic (n : Nat) (h : n < 2 ^ 64) : (displaySize n).isPanic = false := by
  have hv : ByteSize.round53 n < 2 ^ 70 :=
    Nat.lt_of_le_of_lt (ByteSize.round53_le n) (Nat.lt_trans (Nat.mul_lt_mul_of_pos_left h (by decide)) (by decide))
  have hidx : ByteSize.unitIndex (ByteSize.round53 n) ≤ 6 := by
    rcases (ByteSize.unitIndex_spec _ hv).1 with h1 | h1
    · exact Nat.le_of_lt_succ ((Nat.pow_lt_pow_iff_right (by decide)).mp
        (Nat.lt_of_le_of_lt h1 (Nat.lt_of_lt_of_eq hv (by decide : 2 ^ 70 = 1024 ^ 7))))
    · exact h1 ▸ Nat.zero_le _
  unfold displaySize suffixAt
  generalize ByteSize.unitIndex (ByteSize.round53 n) = i at hidx
  split
  · rfl
  · have hlen : Consts.displaySuffixes.length = 6 := by decide
    rw [List.getElem?_eq_getElem (show i - 1 < Consts.displaySuffixes.length by omega)]; rfl

/-- the `try_into::<[u8; 20]>` after the length check can never fail -/
theorem topicDigest_no_panic (h : Bytes) : (topicDigest h).isPanic = false := by
  unfold topicDigest
  split
  · rfl
  · next hl =>
    split
    · rfl
    · next b hu =>
      rw [if_pos (Nat.eq_of_mul_eq_mul_left (by decide : 0 < 2)
        ((Magnet.unhex40_go_length h b hu).trans (Decidable.not_not.mp hl)))]; rfl

theorem pieceCount_no_panic {pieces : Bytes} (h : pieces.length % 20 = 0) : (pieceCount pieces).isPanic = false := by
  rw [pieceCount, if_pos h]; rfl

/-- the loader bounds every path by `maxPathComponents`; a budget above that holds the renderer's recursion -/
theorem treeWalk_no_panic {m : ModeM} {budget : Nat} (hp : pathsOk m = true) (hb : maxPathComponents < budget) :
    (treeWalk budget m).isPanic = false := by
  cases m with
  | single => rfl
  | multiple fs =>
    rw [treeWalk, if_pos (List.all_eq_true.mpr fun f hf => decide_eq_true
      (Nat.lt_of_le_of_lt (of_decide_eq_true (List.all_eq_true.mp hp f hf)) hb))]; rfl

/-- what the loader guarantees to the stages after it -/
private theorem load_facts {urlOk : Bytes → Bool} {b : Bytes} {m : MetainfoM} {span : Bytes}
    (hl : loadTorrent urlOk b = .ok m span) :
    ∃ s, sumLengths (lengthsOf m.info.mode) = .ok s ∧ s < 2 ^ 64 ∧ m.info.pieces.length % 20 = 0 ∧
      m.info.pieceLength < 2 ^ 64 ∧ pathsOk m.info.mode = true := by
  obtain ⟨hm, hpaths, ⟨s, hs⟩, _⟩ := loadTorrent_ok hl
  obtain ⟨buf, hinfo⟩ := readMetainfo_info hm
  obtain ⟨hp20, hpl, hsingle⟩ := readInfoC_facts hinfo
  obtain ⟨hsum, hs64⟩ := sumLengths_ok hs fun n md5 hmode => Nat.lt_trans (hsingle n md5 hmode) (by decide)
  exact ⟨s, hsum, hs64, hp20, hpl, hpaths⟩

/-- the last stage of every pipeline: the generic value is walked within the budget -/
private theorem walk_tail_no_panic {budget : Nat} (hb : 2048 ≤ budget) (b : Bytes) :
    (match decodeTop 2048 b with
      | some (v, _) => walkValue budget v
      | none => Outcome.error).isPanic = false := by
  split
  · next v r h => rw [walk_decoded_no_panic budget 2048 hb b v r h]; rfl
  · rfl

/-- **`torrent show` never panics**: for every byte string (of a length a file can have),
with a stack that holds the decoder's nesting limit -/
theorem show_no_panic (urlOk : Bytes → Bool) (budget : Nat) (hb : 2049 ≤ budget) (b : Bytes) (hlen : b.length < 2 ^ 64) :
    (showPipeline urlOk budget b).isPanic = false := by
  unfold showPipeline
  split
  · rfl
  · rfl
  · next m span hl =>
    obtain ⟨s, hsum, hs64, hp20, hpl, hpaths⟩ := load_facts hl
    refine no_panic_bind (by rw [hsum]; rfl) fun t ht => ?_
    obtain rfl : s = t := Outcome.ok.inj (hsum.symm.trans ht)
    refine no_panic_bind (displaySize_no_panic s hs64) fun _ _ => ?_
    refine no_panic_bind (displaySize_no_panic _ hpl) fun _ _ => ?_
    refine no_panic_bind (displaySize_no_panic _ hlen) fun _ _ => ?_
    refine no_panic_bind (pieceCount_no_panic hp20) fun _ _ => ?_
    refine no_panic_bind (treeWalk_no_panic hpaths (Nat.lt_of_lt_of_le (by decide) hb)) fun _ _ => ?_
    refine no_panic_bind ?_ fun _ _ => walk_tail_no_panic (Nat.le_of_succ_le hb) b
    split
    · unfold renderDate; split <;> rfl
    · rfl

/-- **`torrent link` never panics** -/
theorem link_no_panic (urlOk : Bytes → Bool) (budget : Nat) (hb : 2048 ≤ budget) (b : Bytes) :
    (linkPipeline urlOk budget b).isPanic = false := by
  unfold linkPipeline
  split
  · rfl
  · rfl
  · exact walk_tail_no_panic hb b

/-- one read: neither slice expression fails, and `piece_bytes_hashed` stays below the piece length -/
theorem hashIter_ok {pl pbh : Nat} (hpl : 0 < pl) (h : pbh < pl) (r : Nat) :
    ∃ o, hashIter pl pbh r = .ok o ∧ ∀ p, o = some p → p < pl := by
  unfold hashIter
  rw [if_neg (Nat.not_lt_of_gt h), if_neg (Nat.not_lt_of_le (Nat.min_le_right ..))]
  by_cases h0 : min r (pl - pbh) = 0
  · rw [if_pos h0]; exact ⟨none, rfl, nofun⟩
  · rw [if_neg h0]
    refine ⟨_, rfl, fun p e => Option.some.inj e ▸ ?_⟩
    split
    · exact hpl
    · next hne => exact Nat.lt_of_le_of_ne (Nat.add_le_of_le_sub' (Nat.le_of_lt h) (Nat.min_le_right ..)) hne

/-- **The read loop keeps `piece_bytes_hashed < piece_length`**, whatever the files deliver, so
neither slice expression can fail -/
theorem hashReads_ok (pl : Nat) (hpl : 0 < pl) : ∀ (reads : List Nat) (pbh : Nat), pbh < pl →
    ∃ pbh', hashReads pl pbh reads = .ok pbh' ∧ pbh' < pl := by
  intro reads
  induction reads with
  | nil => intro pbh h; exact ⟨pbh, rfl, h⟩
  | cons r rest ih =>
    intro pbh h
    obtain ⟨o, ho, hlt⟩ := hashIter_ok hpl h r
    rw [hashReads, ho]
    cases o with
    | none => exact ih pbh h
    | some p => exact ih p (hlt p rfl)

/-- **`torrent verify` never panics**: for every torrent file and everything the content files
may deliver to the read loop -/
theorem verify_no_panic (urlOk : Bytes → Bool) (budget : Nat) (hb : 2048 ≤ budget) (b : Bytes) (reads : List Nat) :
    (verifyPipeline urlOk budget b reads).isPanic = false := by
  unfold verifyPipeline
  split
  · rfl
  · rfl
  · next m span hl =>
    split
    · rfl
    · next hp =>
      obtain ⟨s, hsum, _, hp20, _, _⟩ := load_facts hl
      have hpl : 0 < m.info.pieceLength := Nat.pos_of_ne_zero fun e => hp (.inr e)
      obtain ⟨pbh', hr, _⟩ := hashReads_ok m.info.pieceLength hpl reads 0 hpl
      refine no_panic_bind (by rw [hsum]; rfl) fun _ _ => ?_
      refine no_panic_bind (pieceCount_no_panic hp20) fun _ _ => ?_
      exact no_panic_bind (by rw [hr]; rfl) fun _ _ => walk_tail_no_panic hb b

/-- the limits in the source (extracted on every run) are the ones the pipelines above assume, and
within the stack budget the fuzz validates on the real binary -/
theorem source_limits : Consts.maxPathComponents = Load.maxPathComponents ∧ Consts.valueMaxDepth = 2048 := by decide

end Imdlv.C08
