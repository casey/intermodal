import Imdlv.Lemmas.Verifier
/-!
# C03 — verify's verdict on any torrent equals an independent recomputation

For every torrent (any piece length, piece list, file list incl. duplicates),
every file system state (`FS` is an arbitrary function) and every read
schedule. `H`, `H5` arbitrary: both sides compare digests, so no hash
assumption is needed.
-/
namespace Imdlv.C03
open Imdlv Imdlv.Verifier

variable {δ ε : Type} [DecidableEq δ] [DecidableEq ε]

/-- **Verdict = independent recomputation**, for well-formed torrents
(`0 < p < 2^32`, listed paths made of normal components). -/
theorem verify_eq_spec (H : Bytes → δ) (H5 : Bytes → ε) (t : Torrent δ ε) (fs : FS) (scheds : List (List Nat))
    (hp0 : 0 < t.pieceLength) (hp1 : t.pieceLength < 2 ^ 32)
    (hn : ∀ f ∈ entries t, ∀ c ∈ f.path, isNormalComp c = true) :
    succeeds H H5 t fs scheds = verifySpec H H5 t fs := by
  rw [succeeds_eq, (refusal?_eq_none_iff t).mpr ⟨hp0, hp1, hn⟩]
  rfl

/-- **Piece length zero never verifies** (no byte would be hashed). -/
theorem verify_zero_piece (H : Bytes → δ) (H5 : Bytes → ε) (t : Torrent δ ε) (fs : FS) (scheds : List (List Nat))
    (hp : t.pieceLength = 0) : succeeds H H5 t fs scheds = false :=
  Bool.eq_false_iff.mpr fun h => by have := (succeeds_iff.mp h).1.1; omega

/-- a piece length beyond `u32` is refused -/
theorem verify_too_large (H : Bytes → δ) (H5 : Bytes → ε) (t : Torrent δ ε) (fs : FS) (scheds : List (List Nat))
    (hp : t.pieceLength ≥ 2 ^ 32) : succeeds H H5 t fs scheds = false :=
  Bool.eq_false_iff.mpr fun h => by have := (succeeds_iff.mp h).1.2.1; omega

/-- **The verdict does not depend on how reads are split.** -/
theorem verify_schedule_independent (H : Bytes → δ) (H5 : Bytes → ε) (t : Torrent δ ε) (fs : FS)
    (s₁ s₂ : List (List Nat)) : succeeds H H5 t fs s₁ = succeeds H H5 t fs s₂ := by
  rw [succeeds_eq, succeeds_eq]

/-- **Only listed paths matter**: two file systems that agree on every listed
path get the same verdict (unlisted files are never consulted). -/
theorem verify_reads_only_listed (H : Bytes → δ) (H5 : Bytes → ε) (t : Torrent δ ε) (fs fs' : FS)
    (scheds : List (List Nat)) (h : ∀ f ∈ entries t, fs f.path = fs' f.path) :
    succeeds H H5 t fs scheds = succeeds H H5 t fs' scheds := by
  rw [succeeds_eq, succeeds_eq, verifySpec_congr H H5 t h]

/-- **Per-file diagnostics are exactly the failing files**: the reported paths
are, in order and with multiplicity, the paths of the listed entries that are
missing, not regular files, resized or checksum-failing. -/
theorem errors_exact (H : Bytes → δ) (H5 : Bytes → ε) (t : Torrent δ ε) (fs : FS) (scheds : List (List Nat))
    (s : Status) (h : verify H H5 t fs scheds = .ok s) :
    s.errors.map Prod.fst = ((entries t).filter fun f => !fileOk H5 fs f).map (·.path) := by
  rw [verify_eq] at h
  cases hr : refusal? t <;> rw [hr] at h <;> cases h
  induction entries t with
  | nil => rfl
  | cons f rest ih =>
    rw [List.filterMap_cons, List.filter_cons, ← fileError_isNone]
    cases fileError H5 (fs f.path) f.length f.md5 <;> simpa using ih

end Imdlv.C03
