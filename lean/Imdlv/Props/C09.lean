import Imdlv.Lemmas.CreateFx
/-!
# C09 — create never clobbers, never litters, never touches its input

For every file-system state, every request, every fault point and every
interference by other processes between the existence check and the final open.

The properties read their answer off `decisionAt_cases` and `createAt_cases` (`Lemmas/CreateFx`).
-/
namespace Imdlv.C09
open Imdlv.CreateFx

/-- a write happens only at the final path (or through a dangling link there under `--force`),
only without `--dry-run`, and never over an existing entry unless forced -/
theorem write_conditions (fs : FS) (r : Req) (w : String) (h : decision fs r = .write w) :
    ∃ out, finalPath fs r = some out ∧ r.dryRun = false ∧ r.fault = .none ∧
      ((w = out ∧ (r.force = true ∨ fs out = .absent)) ∨ (r.force = true ∧ fs out = .link w)) := by
  rcases decisionAt_cases fs fs r with h' | ⟨h', _⟩ | ⟨out, h', hw⟩ <;> rw [decision, h'] at h <;> cases h
  refine ⟨out, hw.path, hw.notDry, hw.noFault, ?_⟩
  unfold landing
  split
  · next t ht => exact .inr ⟨hw.free.resolve_right (by simp [ht]), ht⟩
  · exact .inl ⟨rfl, hw.free⟩

/-- **No clobber, atomically**: without `--force`, nothing that is present *at the time of the
final open* is replaced — whatever the file system looked like when the output path was checked,
i.e. also when another process created the file while `imdl` was hashing. -/
theorem no_clobber_atomic (fsC fsO : FS) (r : Req) (hf : r.force = false) (q : String) (hq : fsO q ≠ .absent) :
    (createAt fsC fsO r).1 q = fsO q := by
  rcases createAt_cases fsC fsO r with h | ⟨h, _⟩ | ⟨out, h, hw⟩ <;> rw [h]
  obtain ⟨habs, hl⟩ := hw.unforced hf
  rw [hl]
  exact update_of_ne fun e => hq (e ▸ habs)

/-- **No clobber**: without `--force`, whatever is present at the output path (a file, a
directory, even a dangling symbolic link) is unchanged — the whole file system is. -/
theorem no_clobber (fs : FS) (r : Req) (hf : r.force = false) : ∀ q, fs q ≠ .absent → (create fs r).1 q = fs q :=
  no_clobber_atomic fs fs r hf

/-- … and when the output path exists in the sense of `Path::exists`, the command fails outright -/
theorem existing_output_refused (fs : FS) (r : Req) (out : String) (hout : finalPath fs r = some out)
    (hf : r.force = false) (hex : present (fs out) = true) :
    create fs r = (fs, .error) := by
  -- the existence guard fires, unless the fault before it has already failed the run
  have : decisionAt fs fs r = .fail := by simp [decisionAt, hout, hf, hex]
  rw [create, createAt, this]

/-- a dangling symbolic link at the output path is not written through without `--force` -/
theorem dangling_link_not_followed (fs : FS) (r : Req) (out t : String) (hout : finalPath fs r = some out)
    (hf : r.force = false) (hl : fs out = .link t) : (create fs r).1 = fs := by
  rcases createAt_cases fs fs r with h | ⟨h, _⟩ | ⟨out', h, hw⟩ <;> rw [create, h]
  cases hout.symm.trans hw.path
  cases hl.symm.trans (hw.unforced hf).1

/-- **A failed create leaves no trace**: whenever the outcome is an error, the file system is unchanged. -/
theorem failure_frame (fs : FS) (r : Req) (h : (create fs r).2 = .error) : (create fs r).1 = fs :=
  failure_frame_at fs fs r h

/-- **`--dry-run` leaves the file system exactly as it was.** -/
theorem dry_run_frame (fs : FS) (r : Req) (hd : r.dryRun = true) : (create fs r).1 = fs := by
  rcases createAt_cases fs fs r with h | ⟨h, _⟩ | ⟨out, h, hw⟩ <;> rw [create, h]
  cases hd.symm.trans hw.notDry

/-- every fault yields no change -/
theorem early_fault_fails (fs : FS) (r : Req) (h : r.fault ≠ .none) : create fs r = (fs, .error) ∨ create fs r = (fs, .ok) := by
  rcases createAt_cases fs fs r with h' | ⟨h', _⟩ | ⟨out, _, hw⟩
  · exact .inl h'
  · exact .inr h'
  · exact absurd hw.noFault h

theorem fault_before_output_check_fails (fs : FS) (r : Req) (h : r.fault = .beforeOutputCheck) :
    create fs r = (fs, .error) := by
  rw [create, createAt, decisionAt, if_pos h]

/-- **Success writes exactly one file, at the documented path**: on success
without `--dry-run` and with a path target, the new file system differs from the
old one at most at the output path (or, under `--force`, the target of a dangling
link there), which holds exactly the torrent bytes. -/
theorem success_exactly_one (fs : FS) (r : Req) (out : String) (hout : finalPath fs r = some out)
    (hok : (create fs r).2 = .ok) (hd : r.dryRun = false) :
    (create fs r).1 = update fs (landing fs out) (.file r.bytes) :=
  (success_is_write hout hok hd).1

/-- without `--force`, a success lands exactly on the output path -/
theorem success_exactly_one_unforced (fs : FS) (r : Req) (out : String) (hout : finalPath fs r = some out)
    (hok : (create fs r).2 = .ok) (hd : r.dryRun = false) (hf : r.force = false) :
    (create fs r).1 = update fs out (.file r.bytes) := by
  obtain ⟨h, hw⟩ := success_is_write hout hok hd
  rw [← (hw.unforced hf).2]; exact h

/-- **Everything else is untouched** — in particular the input content: for every
path other than the output path (and the target of a dangling link there), nothing changes, whatever happens. -/
theorem others_untouched (fs : FS) (r : Req) (q : String)
    (hq : ∀ out, finalPath fs r = some out → q ≠ out ∧ q ≠ landing fs out) :
    (create fs r).1 q = fs q := by
  rcases createAt_cases fs fs r with h | ⟨h, _⟩ | ⟨out, h, hw⟩ <;> rw [create, h]
  exact update_of_ne (hq out hw.path).2

/-- writing to standard output never changes the disk -/
theorem stdout_frame (fs : FS) (r : Req) (h : r.target = .stdout) : (create fs r).1 = fs := by
  rcases createAt_cases fs fs r with h' | ⟨h', _⟩ | ⟨out, h', hw⟩ <;> rw [create, h']
  have := hw.path
  rw [finalPath, h] at this
  cases this

/-- the documented output path: the explicit target, or `<name>.torrent` inside a target directory -/
theorem output_path_documented (fs : FS) (r : Req) (p : String) (h : r.target = .path p) :
    finalPath fs r = some (if fs p = .dir then p ++ "/" ++ r.torrentName else p) := by
  simp only [finalPath, h]
  cases hp : fs p <;> simp

/-- verify, show and link are read-only -/
theorem read_only_frame (fs : FS) : readOnly fs = fs := rfl

def fs0 : FS := fun p => if p = "out.torrent" then .file [1] else if p = "d" then .dir else if p = "l" then .link "elsewhere" else .absent
example : (create fs0 ⟨false, false, .path "out.torrent", "n.torrent", .none, [9]⟩).2 = .error := by decide +kernel
example : (create fs0 ⟨true, false, .path "out.torrent", "n.torrent", .none, [9]⟩).1 "out.torrent" = .file [9] := by decide +kernel
example : (create fs0 ⟨false, false, .path "d", "n.torrent", .none, [9]⟩).1 "d/n.torrent" = .file [9] := by decide +kernel
example : (create fs0 ⟨false, false, .path "l", "n.torrent", .none, [9]⟩) = (fs0, .error) := rfl
example : (create fs0 ⟨true, false, .path "l", "n.torrent", .none, [9]⟩).1 "elsewhere" = .file [9] := by decide +kernel
/-- interference: the file appears after the check — the late file survives -/
example : (createAt (fun _ => .absent) (fun p => if p = "o" then .file [7] else .absent) ⟨false, false, .path "o", "n", .none, [9]⟩).1 "o" = .file [7] := by decide +kernel

end Imdlv.C09
