import Imdlv.Lemmas.Bencode
import Imdlv.Model.Infohash
/-!
# C04 — the reported infohash is the SHA-1 of the info dictionary exactly as stored

For every byte string `b` the generic decoder accepts — whatever unknown keys,
non-UTF-8 strings, nested values or trailing bytes it carries — and any nesting
limit. `H` arbitrary.
-/
namespace Imdlv.C04
open Imdlv Imdlv.Bencode Imdlv.Infohash

variable {δ : Type}

/-- **Infohash = H(exact stored span of `info`)**: whenever `Infohash::from_input`
succeeds, the value-free scanner finds a span `s` for key `info`, `s` is a
contiguous part of the input, and the reported hash is `H s`. -/
theorem infohash_is_span (H : Bytes → δ) (depth : Nat) (b : Bytes) (h : δ)
    (hok : infohashFromInput H depth b = .ok h) :
    ∃ s, findSpan infoKey b = some s ∧ h = H s ∧ ∃ pre post, b = pre ++ s ++ post := by
  unfold infohashFromInput at hok
  split at hok
  · cases hok
  · next d r hd =>
    split at hok
    · cases hok
    · next i hl =>
      obtain rfl := Except.ok.inj hok
      obtain ⟨pre, post, e⟩ := lookup_subspan infoKey d _ hl
      refine ⟨encode (.dict i), by rw [findSpan_of_decodeTop infoKey hd, hl]; rfl, rfl,
        100 :: pre, post ++ [101] ++ r, ?_⟩
      rw [decode_eq hd, encode_dict, e]; simp
    · cases hok
  · cases hok

/-- in particular the model agrees with the specification function -/
theorem infohash_eq_spec (H : Bytes → δ) (depth : Nat) (b : Bytes) (h : δ)
    (hok : infohashFromInput H depth b = .ok h) : infohashSpec H b = some h := by
  obtain ⟨s, hs, hh, _⟩ := infohash_is_span H depth b h hok
  simp [infohashSpec, hs, hh]

/-- the nesting limit only decides acceptance, never the value -/
theorem infohash_depth_irrelevant (H : Bytes → δ) (d₁ d₂ : Nat) (b : Bytes) (h₁ h₂ : δ)
    (hok₁ : infohashFromInput H d₁ b = .ok h₁) (hok₂ : infohashFromInput H d₂ b = .ok h₂) : h₁ = h₂ :=
  Option.some.inj ((infohash_eq_spec H d₁ b h₁ hok₁).symm.trans (infohash_eq_spec H d₂ b h₂ hok₂))

/-! ## Non-vacuity: unknown keys inside and outside `info`, trailing bytes -/
-- d 1:a i1e 4:info d 1:x l i-5e e 1:z 0: e 3:zzz 2:ok e  followed by trailing "junk"
def sample : Bytes := "d1:ai1e4:infod1:xli-5ee1:z0:e3:zzz2:okejunk".toUTF8.toList
example : (match infohashFromInput id 64 sample with | .ok s => s == "d1:xli-5ee1:z0:e".toUTF8.toList | .error _ => false) = true := by
  rw [sample, utf8_toList, utf8_toList]; decide +kernel
example : findSpan infoKey sample = some "d1:xli-5ee1:z0:e".toUTF8.toList := by
  rw [sample, utf8_toList, utf8_toList]; decide +kernel

end Imdlv.C04
