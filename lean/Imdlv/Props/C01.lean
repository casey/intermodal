import Imdlv.Lemmas.Hasher
/-!
# C01 — piece hashes, lengths and MD5s match the content bytes

`H` (SHA-1) and `H5` (MD5) are arbitrary functions:
the theorems identify *which bytes* are hashed; the digests are applied by the
real crates in the correspondence check.

Spec `S`: blocks = `chunks p (files joined in listed order)`; per file the
consumed bytes are the file's bytes (so its length and MD5 are exact).
-/
namespace Imdlv.C01
open Imdlv Imdlv.Hasher

/-- what the torrent's `pieces` string is, given the blocks hashed -/
def piecesOf {δ : Type} (H : Bytes → List δ) (blocks : List Bytes) : List δ :=
  (blocks.map H).flatten

/-- **Blocks.** For every piece length `p > 0`, every list of files and every
read schedule per file, the blocks hashed by the create-side hasher are the
consecutive `p`-byte blocks of the files' bytes joined in listed order. -/
theorem hashFiles_blocks (p : Nat) (hp : 0 < p) (fs : List (Bytes × List Nat)) :
    (hashFiles p fs).1 = chunks p (fs.map Prod.fst).flatten := by
  rw [hashFiles_eq p hp]

/-- **Per-file bytes.** What is fed to the per-file length counter and MD5
context is exactly the file's content, whatever the schedule. -/
theorem hashFiles_infos (p : Nat) (hp : 0 < p) (fs : List (Bytes × List Nat)) :
    (hashFiles p fs).2 = fs.map Prod.fst := by
  rw [hashFiles_eq p hp]

/-- the `pieces` value and the listed lengths / MD5s, for any digest functions -/
theorem pieces_lengths_md5 {δ ε : Type} (H : Bytes → List δ) (H5 : Bytes → ε)
    (p : Nat) (hp : 0 < p) (fs : List (Bytes × List Nat)) :
    piecesOf H (hashFiles p fs).1 = piecesOf H (chunks p (fs.map Prod.fst).flatten) ∧
    (hashFiles p fs).2.map List.length = fs.map (fun f => f.1.length) ∧
    (hashFiles p fs).2.map H5 = fs.map (fun f => H5 f.1) := by
  rw [hashFiles_eq p hp]
  exact ⟨rfl, List.map_map, List.map_map⟩

/-- **Independence of read splitting**: two runs over the same file contents
under arbitrary different schedules give identical results. -/
theorem schedule_independent (p : Nat) (hp : 0 < p) (fs₁ fs₂ : List (Bytes × List Nat))
    (h : fs₁.map Prod.fst = fs₂.map Prod.fst) :
    hashFiles p fs₁ = hashFiles p fs₂ := by
  rw [hashFiles_eq p hp, hashFiles_eq p hp, h]

/-- **Block count and the final block.** `⌊total/p⌋` full blocks followed by one
shorter block exactly when the total is not a multiple of `p`. -/
theorem block_profile (p : Nat) (hp : 0 < p) (fs : List (Bytes × List Nat)) :
    let total := ((fs.map Prod.fst).flatten).length
    (hashFiles p fs).1.map List.length =
      List.replicate (total / p) p ++ (if total % p = 0 then [] else [total % p]) := by
  rw [hashFiles_eq p hp]
  exact chunks_lengths p hp _

/-- **No block for empty content** (any number of empty files). -/
theorem empty_no_block (p : Nat) (hp : 0 < p) (fs : List (Bytes × List Nat))
    (h : (fs.map Prod.fst).flatten = []) : (hashFiles p fs).1 = [] := by
  rw [hashFiles_eq p hp, h, chunks_nil]

/-- **Blocks rejoin to the content**: nothing is skipped, duplicated or reordered. -/
theorem blocks_flatten (p : Nat) (hp : 0 < p) (fs : List (Bytes × List Nat)) :
    (hashFiles p fs).1.flatten = (fs.map Prod.fst).flatten := by
  rw [hashFiles_eq p hp, chunks_flatten p hp]

/-- **stdin = single file**: the same bytes on standard input give the same
blocks and the same consumed bytes as a single file, under any two schedules. -/
theorem stdin_eq_single_file (p : Nat) (hp : 0 < p) (d : Bytes) (s₁ s₂ : List Nat) :
    (hashStdin p d s₁).1 = (hashFiles p [(d, s₂)]).1 ∧
    [(hashStdin p d s₁).2] = (hashFiles p [(d, s₂)]).2 := by
  rw [hashStdin_eq p hp, hashFiles_eq p hp]
  simp

/-! ## Non-vacuity: concrete runs with short reads crossing file and piece boundaries -/

example : (hashFiles 4 [([1,2,3], [1,1]), ([], []), ([4,5,6,7,8,9], [2,5,1])]).1
    = [[1,2,3,4],[5,6,7,8],[9]] := by decide +kernel
example : (hashFiles 4 [([1,2,3], [1,1]), ([], []), ([4,5,6,7,8,9], [2,5,1])]).2
    = [[1,2,3],[],[4,5,6,7,8,9]] := by decide +kernel
example : (hashFiles 3 [([1,2,3], [2]), ([4,5,6], [])]).1 = [[1,2,3],[4,5,6]] := by decide +kernel

end Imdlv.C01
