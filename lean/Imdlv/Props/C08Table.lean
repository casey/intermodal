import Imdlv.Model.Table
/-!
# C08 (table padding) — the width subtractions of the human-readable table never underflow

For every table (any number of rows, any names, any tiers): each padding width is computed, because
the width that is subtracted is one of those the maximum was taken over. This is the machine-checked
discharge of the `name_width - width(name)` site of `src/table.rs` in the panic-site inventory. (A
`name_width` taken over only *some* of the rows is not this model: the theorem is about the maximum
over the rows that are written.)
-/
namespace Imdlv.C08
open Imdlv.Table

theorem le_maxWidth {w : Nat} {ws : List Nat} (h : w ∈ ws) : w ≤ maxWidth ws := by
  rw [maxWidth, List.foldl_max_eq_max (List.ne_nil_of_mem h)]
  exact Nat.le_trans (List.le_max_of_mem h) (Nat.le_max_right ..)

theorem mapM_checkedSub (m : Nat) (f : Nat → Nat) : ∀ (l : List Nat), (∀ w ∈ l, f w ≤ m) →
    l.mapM (fun w => checkedSub m (f w)) = some (l.map fun w => m - f w)
  | [], _ => rfl
  | x :: t, h => by
    rw [List.mapM_cons, mapM_checkedSub m f t fun w hw => h w (List.mem_cons_of_mem _ hw), checkedSub,
      if_pos (h x List.mem_cons_self)]
    rfl

/-- **No row's padding underflows** -/
theorem table_padding_no_underflow (ws : List Nat) :
    ∃ pads, namePads ws = some pads ∧ pads.length = ws.length :=
  ⟨_, mapM_checkedSub (maxWidth ws) id ws fun _ => le_maxWidth, List.length_map ..⟩

/-- the same for the tier labels -/
theorem tier_padding_no_underflow (labels : List Nat) :
    ∃ pads, tierPads labels = some pads ∧ pads.length = labels.length :=
  ⟨_, mapM_checkedSub (maxWidth labels + 1) (· + 1) labels fun _ hw => Nat.succ_le_succ (le_maxWidth hw),
    List.length_map ..⟩

/-- and a maximum taken over fewer rows than are written can underflow: the widest name left out -/
example : (([12, 13].mapM (fun w => checkedSub (maxWidth [12]) w)) : Option (List Nat)) = none := by decide +kernel
example : namePads [4, 13, 12] = some [9, 0, 1] := by decide +kernel

end Imdlv.C08
