import Imdlv.Model.Completions
/-!
# C19 — completion scripts: same text on stdout and on disk, under the documented names

The configuration space is finite (5 shells × flag/positional/both/none × dir);
the script text is an arbitrary function of the shell, so "same text" holds for
every possible script generator.
-/
namespace Imdlv.C19
open Imdlv Imdlv.Completions

/-- the file-name table and the shell list extracted from the source are the documented ones -/
theorem names_documented :
    Consts.completionFileNames = [("bash", "imdl.bash"), ("fish", "imdl.fish"), ("zsh", "_imdl"),
      ("powershell", "_imdl.ps1"), ("elvish", "imdl.elvish")] ∧
    Consts.shellNames = ["zsh", "bash", "fish", "powershell", "elvish"] := ⟨rfl, rfl⟩

/-- every shell has an entry in the file-name table -/
theorem fileName_isSome : ∀ sh ∈ Consts.shellNames, (fileName sh).isSome = true := by decide +kernel

variable {σ : Type} (script : String → σ)

/-- shell given both as flag and positionally ⇒ usage error -/
theorem both_is_usage_error (a b : String) (dir : Bool) :
    (match dispatch script (some a) (some b) dir with | .usageError => True | _ => False) := by
  simp [dispatch]

/-- neither shell nor directory ⇒ usage error -/
theorem neither_is_usage_error :
    (match dispatch script none none false with | .usageError => True | _ => False) := by
  simp [dispatch]

/-- `--shell S` (flag or positional) without `--dir`: prints exactly the script of `S`, writes nothing -/
theorem print_single (sh : String) :
    (match dispatch script (some sh) none false, dispatch script none (some sh) false with
      | .print t₁, .print t₂ => t₁ = script sh ∧ t₂ = script sh
      | _, _ => False) := by
  simp [dispatch]

/-- **Same text on stdout and on disk, under the documented name, and nothing else**:
for each supported shell, `--dir D --shell S` writes exactly one file, named by
the table, holding exactly what `--shell S` prints. -/
theorem write_single_same_text (sh : String) (hsh : sh ∈ Consts.shellNames) :
    ∃ f, fileName sh = some f ∧
      (match dispatch script (some sh) none true with
        | .write fs => fs = [(f, script sh)]
        | _ => False) ∧
      (match dispatch script none (some sh) true with
        | .write fs => fs = [(f, script sh)]
        | _ => False) ∧
      (match dispatch script (some sh) none false with
        | .print t => t = script sh
        | _ => False) := by
  obtain ⟨f, hf⟩ := Option.isSome_iff_exists.1 (fileName_isSome sh hsh)
  exact ⟨f, hf, by simp [dispatch, hf], by simp [dispatch, hf], by simp [dispatch]⟩

/-- **`--dir D` without a shell writes all five files**, each holding its shell's
script, under five distinct documented names -/
theorem write_all :
    (match dispatch script none none true with
      | .write fs =>
        fs = [("_imdl", script "zsh"), ("imdl.bash", script "bash"), ("imdl.fish", script "fish"),
              ("_imdl.ps1", script "powershell"), ("imdl.elvish", script "elvish")]
      | _ => False) :=
  -- by evaluation: the five table look-ups succeed, and the match reduces to `l = l`
  Eq.refl _

theorem all_names_distinct : (Consts.completionFileNames.map (·.2)).Nodup := by decide +kernel

end Imdlv.C19
