import Imdlv.Props.C06
/-!
# C06 (tree level) — the listing does not depend on the order in which directories are enumerated

`Props/C06.lean` proves order independence for any permutation of the *enumerated file list*. This
file closes the gap to the tree: if two trees differ only in the order of the entries inside their
directories, at any depth (`EPerm`), the walk enumerates permutations of one another
(`walkEntries_perm`); and in a tree whose sibling names are distinct - which every file system
guarantees - the enumerated paths are distinct (`walkEntries_nodup`). Together: the same torrent file
list, whatever order `readdir` returns (`tree_order_independent`).
-/
namespace Imdlv.C06
open Imdlv Imdlv.Walker

/-- the same entries in another order, at this level or inside any sub-directory -/
inductive EPerm : Entries → Entries → Prop
  | refl (es : Entries) : EPerm es es
  | swap (a : Bytes) (x : Node) (b : Bytes) (y : Node) (t : Entries) :
      EPerm (.cons a x (.cons b y t)) (.cons b y (.cons a x t))
  | tail (a : Bytes) (x : Node) {t t' : Entries} : EPerm t t' → EPerm (.cons a x t) (.cons a x t')
  | inDir (a : Bytes) {es es' : Entries} (t : Entries) : EPerm es es' →
      EPerm (.cons a (.dir es) t) (.cons a (.dir es') t)
  | inLink (a : Bytes) {es es' : Entries} (t : Entries) : EPerm es es' →
      EPerm (.cons a (.linkDir es) t) (.cons a (.linkDir es') t)
  | trans {a b c : Entries} : EPerm a b → EPerm b c → EPerm a c

/-- reordering directory entries only permutes what the walk finds -/
theorem walkEntries_perm {es es' : Entries} (h : EPerm es es') :
    ∀ (fl : Flags) (pre : List Bytes), (walkEntries fl pre es).Perm (walkEntries fl pre es') := by
  induction h with
  | refl es => exact fun _ _ => .refl _
  | swap a x b y t =>
    intro fl pre
    simp only [walkEntries, ← List.append_assoc]
    exact List.perm_append_comm.append_right _
  | tail a x _ ih => exact fun fl pre => (ih fl pre).append_left _
  | inDir a t _ ih => exact fun fl pre => (perm_ite (.refl _) (ih fl _)).append_right _
  | inLink a t _ ih => exact fun fl pre => (perm_ite (.refl _) (perm_ite (ih fl _) (.refl _))).append_right _
  | trans _ _ ih1 ih2 => exact fun fl pre => (ih1 fl pre).trans (ih2 fl pre)

mutual
/-- sibling names are distinct, at every depth -/
def nodeOk : Node → Bool
  | .dir es => entriesOk es
  | .linkDir es => entriesOk es
  | _ => true
def entriesOk : Entries → Bool
  | .nil => true
  | .cons n x t => !(names t).contains n && nodeOk x && entriesOk t
end

mutual
theorem walkNode_nodup (fl : Flags) (path : List Bytes) :
    (n : Node) → nodeOk n = true → ((walkNode fl path n).map (·.path)).Nodup
  | .file s, _ => by simp [walkNode]
  | .dir es, h => walkEntries_nodup fl path es h
  | .linkFile s, _ => by simp only [walkNode]; split <;> simp
  | .linkDir es, h => by
    simp only [walkNode]; split
    · exact walkEntries_nodup fl path es h
    · simp
  | .other, _ => by simp [walkNode]
/-- **Distinct sibling names give distinct paths** -/
theorem walkEntries_nodup (fl : Flags) (pre : List Bytes) :
    (es : Entries) → entriesOk es = true → ((walkEntries fl pre es).map (·.path)).Nodup
  | .nil, _ => by simp [walkEntries]
  | .cons name n t, h => by
    simp only [entriesOk, Bool.and_eq_true, Bool.not_eq_true'] at h
    obtain ⟨⟨hname, hn⟩, ht⟩ := h
    simp only [walkEntries, List.map_append]
    refine List.nodup_append.2 ⟨?_, walkEntries_nodup fl pre t ht, ?_⟩
    · split
      · simp
      · exact walkNode_nodup fl (pre ++ [name]) n hn
    · -- a path below `name` and one below a later sibling differ in the component after `pre`
      intro p hp q hq hpq
      obtain ⟨e1, he1, rfl⟩ := List.mem_map.1 hp
      obtain ⟨e2, he2, rfl⟩ := List.mem_map.1 hq
      obtain ⟨suf1, h1, _⟩ := mem_walkNode fl (pre ++ [name]) n e1 (List.mem_ite_nil_left.1 he1).2
      obtain ⟨n', hn', suf2, h2, _⟩ := mem_walkEntries fl pre t e2 he2
      rw [h1, h2, List.append_assoc] at hpq
      cases List.append_cancel_left hpq
      exact Bool.false_ne_true (hname.symm.trans (List.contains_iff_mem.2 hn'))
end

/-- **The listing is independent of the directory enumeration order**: two trees that hold the same
entries in different orders (at any depth), sibling names distinct, yield the identical file list
under every flag set, glob list and sort specification. -/
theorem tree_order_independent {π : Type} (fl : Flags) (m : π → List Bytes → Bool) (pats : List (Pattern π))
    (specs : List SortSpec) (es es' : Entries) (hperm : EPerm es es') (hok : entriesOk es = true) :
    listed fl m pats specs (walkEntries fl [] es) = listed fl m pats specs (walkEntries fl [] es') :=
  order_independent fl m pats specs _ _ (walkEntries_perm hperm fl []) (walkEntries_nodup fl [] es hok)

/-- and so is the whole outcome of `Walker::files` for a directory root -/
theorem files_order_independent {π : Type} (fl : Flags) (m : π → List Bytes → Bool) (pats : List (Pattern π))
    (specs : List SortSpec) (es es' : Entries) (hperm : EPerm es es') (hok : entriesOk es = true) :
    files fl m pats specs (.dir es) = files fl m pats specs (.dir es') := by
  simp only [files]; rw [tree_order_independent fl m pats specs es es' hperm hok]

/-! non-vacuity: `{b/{y,x}, a}` against `{a, b/{x,y}}` -/
section nonvacuous
def t1 : Entries := .cons [98] (.dir (.cons [121] (.file 2) (.cons [120] (.file 1) .nil))) (.cons [97] (.file 3) .nil)
def t2 : Entries := .cons [97] (.file 3) (.cons [98] (.dir (.cons [120] (.file 1) (.cons [121] (.file 2) .nil))) .nil)
example : EPerm t1 t2 :=
  .trans (.inDir [98] _ (.swap [121] (.file 2) [120] (.file 1) .nil)) (.swap _ _ _ _ .nil)
example : entriesOk t1 = true := by decide +kernel
example : walkEntries ⟨false, false, false⟩ [] t1 ≠ walkEntries ⟨false, false, false⟩ [] t2 := by decide +kernel
end nonvacuous

end Imdlv.C06
