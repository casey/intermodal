import Imdlv.Lemmas.ReadBack
/-!
# C05 — created metainfo states exactly what was requested, canonically and reproducibly

`createMetainfo` assembles the typed metainfo from the parsed options exactly
as `Create::run` does; `toBVal` is bendy's serde encoding of it. For every
option record, clock value, hash result.
-/
namespace Imdlv.C05
open Imdlv Imdlv.Bencode Imdlv.Metainfo

def topDict : BVal → BDict
  | .dict d => d
  | _ => .nil

def top (o : CreateOpts) (cb : Bytes) (now : Nat) (mode : ModeM) (pieces : Bytes) : BDict :=
  topDict (createMetainfo o cb now mode pieces).toBVal

def info (o : CreateOpts) (cb : Bytes) (now : Nat) (mode : ModeM) (pieces : Bytes) : BDict :=
  topDict (createMetainfo o cb now mode pieces).info.toBVal

/-- **Canonical at the top level and in `info`**: keys strictly ascending (hence
unique) — exactly the order a strict decoder demands. -/
theorem created_canonical (o : CreateOpts) (cb : Bytes) (now : Nat) (mode : ModeM) (pieces : Bytes) :
    SortedFrom none (top o cb now mode pieces) ∧ SortedFrom none (info o cb now mode pieces) :=
  ⟨dictOfFields_sorted _, dictOfFields_sorted _⟩

/-- every file entry of a multi-file torrent is canonical as well -/
theorem file_canonical (f : FileM) : SortedFrom none (topDict f.toBVal) := dictOfFields_sorted _

/-- the written bytes are the canonical encoding of that value: a strict decoder
that accepts them recovers a value with the same encoding and **no trailing bytes** -/
theorem serialize_decodes_without_trailing (m : MetainfoM) (fuel depth : Nat) (v : BVal) (r : Bytes)
    (h : decode fuel depth m.serialize = some (v, r)) : m.serialize = encode v ++ r :=
  decode_eq h

/-- the field at position `i` of `topFields` (`rfl` computes it) -/
private theorem top_field {o : CreateOpts} {cb : Bytes} {now : Nat} {mode : ModeM} {pieces : Bytes} {i : Nat}
    {f : Bytes × Option BVal} (h : (topFields (createMetainfo o cb now mode pieces))[i]? = some f) :
    (top o cb now mode pieces).lookup f.1 = f.2 :=
  lookup_struct_get (topFields (createMetainfo o cb now mode pieces)) top_names.1 h

section top
variable (o : CreateOpts) (cb : Bytes) (now : Nat) (mode : ModeM) (pieces : Bytes)

/-- `announce` is the requested URL, absent when not given -/
theorem announce_exact : (top o cb now mode pieces).lookup (str "announce") = o.announce.map bstr :=
  top_field (i := 0) rfl

/-- `announce-list` holds the tiers in order; absent when no tier was given -/
theorem announce_list_exact : (top o cb now mode pieces).lookup (str "announce-list") =
    if o.tiers.isEmpty then none else some (blist (o.tiers.map fun t => blist (t.map bstr))) :=
  (top_field (i := 1) rfl).trans (apply_ite (Option.map _) ..)

theorem comment_exact : (top o cb now mode pieces).lookup (str "comment") = o.comment.map bstr :=
  top_field (i := 2) rfl

/-- `created by` present unless suppressed -/
theorem created_by_exact : (top o cb now mode pieces).lookup (str "created by") =
    if o.noCreatedBy then none else some (bstr cb) :=
  (top_field (i := 3) rfl).trans (apply_ite (Option.map _) ..)

/-- `creation date` is the clock value read by the run, present unless suppressed -/
theorem creation_date_exact : (top o cb now mode pieces).lookup (str "creation date") =
    if o.noCreationDate then none else some (bnat now) :=
  (top_field (i := 4) rfl).trans (apply_ite (Option.map _) ..)

theorem encoding_utf8 : (top o cb now mode pieces).lookup (str "encoding") = some (bstr (str "UTF-8")) :=
  top_field (i := 5) rfl

/-- DHT nodes as `[host, port]` pairs in order; absent when none was given -/
theorem nodes_exact : (top o cb now mode pieces).lookup (str "nodes") =
    if o.nodes.isEmpty then none else some (blist (o.nodes.map fun n => blist [bstr n.host, bnat n.port])) :=
  (top_field (i := 7) rfl).trans (apply_ite (Option.map _) ..)

theorem info_present : (top o cb now mode pieces).lookup (str "info") = some (.dict (info o cb now mode pieces)) :=
  top_field (i := 6) rfl

end top

private theorem info_field {o : CreateOpts} {cb : Bytes} {now : Nat} {mode : ModeM} {pieces : Bytes} {i : Nat}
    {f : Bytes × Option BVal} (h : (infoFields (createMetainfo o cb now mode pieces).info)[i]? = some f) :
    (info o cb now mode pieces).lookup f.1 = f.2 :=
  lookup_struct_get _ (info_names _).1 h

section info
variable (o : CreateOpts) (cb : Bytes) (now : Nat) (mode : ModeM) (pieces : Bytes)

theorem name_exact : (info o cb now mode pieces).lookup (str "name") = some (bstr o.name) :=
  info_field (i := 2) rfl

theorem piece_length_exact : (info o cb now mode pieces).lookup (str "piece length") = some (bnat o.pieceLength) :=
  info_field (i := 1) rfl

theorem pieces_exact : (info o cb now mode pieces).lookup (str "pieces") = some (bstr pieces) :=
  info_field (i := 4) rfl

/-- `private` = 1 exactly when requested, absent otherwise -/
theorem private_iff : (info o cb now mode pieces).lookup (str "private") =
    if o.priv then some (bnat 1) else none :=
  (info_field (i := 0) rfl).trans (apply_ite (Option.map _) ..)

theorem source_exact : (info o cb now mode pieces).lookup (str "source") = o.source.map bstr :=
  info_field (i := 3) rfl

theorem update_url_exact : (info o cb now mode pieces).lookup (str "update-url") = o.updateUrl.map bstr :=
  -- `update-url` stands behind the mode's fields, whose number depends on the mode: by membership, not by position
  lookup_struct _ (info_names _).1 _ (List.mem_append_right _ (.head _))

end info

/-- **Reproducible**: the output is a function of the options, the clock value
and the hash result only; with `--no-creation-date` the clock drops out. -/
theorem reproducible (o : CreateOpts) (cb : Bytes) (now₁ now₂ : Nat) (mode : ModeM) (pieces : Bytes)
    (h : o.noCreationDate = true) :
    (createMetainfo o cb now₁ mode pieces).serialize = (createMetainfo o cb now₂ mode pieces).serialize := by
  simp [createMetainfo, h]

/-- the option values fit what bencode integers and string lengths can carry (`i64`, `usize`) -/
def OptsOk (o : CreateOpts) (cb : Bytes) (now : Nat) (mode : ModeM) (pieces : Bytes) : Prop :=
  (createMetainfo o cb now mode pieces).Ok

/-- **Read-back**: every strict decoder — canonical integers and lengths, strictly ascending keys,
any nesting limit of at least five, bendy's 2048 included — reads the written bytes back as exactly
the value of the assembled metainfo and consumes all of them (`r` = whatever follows is untouched;
with `r = []`: no trailing bytes). All `…_exact` theorems above therefore describe what such a
decoder finds under each key. -/
theorem created_reads_back (o : CreateOpts) (cb : Bytes) (now : Nat) (mode : ModeM) (pieces : Bytes)
    (h : OptsOk o cb now mode pieces) (depth : Nat) (hd : 5 ≤ depth) (r : Bytes) :
    decodeTop depth ((createMetainfo o cb now mode pieces).serialize ++ r) =
      some ((createMetainfo o cb now mode pieces).toBVal, r) :=
  serialize_reads_back _ h depth hd r

/-- two different assembled values are never written as the same bytes -/
theorem created_one_reading (m₁ m₂ : MetainfoM) (h₁ : m₁.Ok) (h₂ : m₂.Ok) (h : m₁.serialize = m₂.serialize) :
    m₁.toBVal = m₂.toBVal :=
  encode_injective _ _ (metainfo_fits m₁ h₁).1 (metainfo_fits m₂ h₂).1 h

/-! ## Non-vacuity: a concrete option record and its exact bytes -/
def sampleOpts : CreateOpts :=
  { announce := some (str "http://t/a"), tiers := [], comment := none, source := some (str "s"), nodes := [⟨str "::1", 80⟩],
    updateUrl := none, name := str "n", pieceLength := 16384, priv := true, noCreatedBy := true, noCreationDate := true }

example : (createMetainfo sampleOpts [] 0 (.single 3 none) []).serialize =
    str "d8:announce10:http://t/a8:encoding5:UTF-84:infod6:lengthi3e4:name1:n12:piece lengthi16384e6:pieces0:7:privatei1e6:source1:se5:nodesll3:::1i80eeee" := by
  simp only [str_eq]; decide +kernel

/-- the bounds of `created_reads_back` hold for it -/
example : OptsOk sampleOpts [] 0 (.single 3 none) [] := by
  unfold OptsOk MetainfoM.Ok InfoM.Ok ModeM.Ok optOk strOk
  simp [createMetainfo, sampleOpts, NodeM.Ok, strOk]
  decide +kernel

end Imdlv.C05
