import Imdlv.Lemmas.Paths
/-!
# C03 (which directory is judged) — the content root `verify` selects

`Verify::run` picks the content root by a fixed precedence: `--content` as given; else
`--base-directory`/`name`, cleaned lexically; else `name` beside the torrent file, cleaned; for a
torrent from standard input the `name` itself (relative to the working directory). The verdict of
C03's main theorem is about the files under *that* root; these theorems pin which root it is, for
every combination of options and every path.
-/
namespace Imdlv.C03
open Imdlv Imdlv.Paths

/-- `--content` wins over everything and is taken as given (no cleaning, no name appended) -/
theorem content_wins (c : CPath) (base target : Option CPath) (name : CPath) :
    contentRoot (some c) base target name = c := rfl

/-- without `--content`, `--base-directory B` selects `B/name` cleaned, whatever the torrent's own location -/
theorem base_directory_next (b : CPath) (target : Option CPath) (name : CPath) :
    contentRoot none (some b) target name = lexiclean (joinC b name) := rfl

/-- with neither, the content is looked for beside the torrent: `T/../name` cleaned -/
theorem beside_torrent (t name : CPath) :
    contentRoot none none (some t) name = lexiclean (joinC (joinC t [.parent]) name) := rfl

/-- a torrent from standard input: the name itself -/
theorem stdin_name (name : CPath) : contentRoot none none none name = name := rfl

/-- the selection never depends on an option of lower precedence -/
theorem lower_precedence_ignored (c : CPath) (b b' : Option CPath) (t t' : Option CPath) (name : CPath) :
    contentRoot (some c) b t name = contentRoot (some c) b' t' name ∧
    ∀ bd, contentRoot none (some bd) t name = contentRoot none (some bd) t' name := ⟨rfl, fun _ => rfl⟩

/-- beside the torrent means: in the directory the torrent's path names, for a torrent path that
ends in a file name - `dir/x.torrent` with name `n` gives `dir/n`, for every relative `dir`
(already clean: names on top of leading `..`s) -/
theorem beside_torrent_clean (ns : List Bytes) (k : Nat) (x n : Bytes) :
    contentRoot none none (some ((relSt ns k).reverse ++ [.normal x])) [.normal n]
      = (relSt ns k).reverse ++ [.normal n] := by
  rw [beside_torrent, joinC_single_parent, joinC_single_normal,
    lexiclean_eq_run fun e => by simpa using congrArg List.length e,
    run_append, run_append, run_append, run_nil_relSt_reverse]
  exact List.reverse_cons

/-- lexical cleaning is idempotent on relative paths (so the root shown is already clean) -/
theorem lexiclean_idem (x : CPath) (hx : Rel x) : lexiclean (lexiclean x) = lexiclean x := by
  by_cases h : x = [.cur]
  · rw [h]; rfl
  · obtain ⟨ns, k, h1, _⟩ := run_rel x hx
    -- cleaning leaves no `.`, so the second cleaning does not return early either
    have hc : lexiclean x ≠ [.cur] := fun e => cur_not_mem_lexiclean h (e ▸ List.mem_singleton_self _)
    rw [lexiclean_eq_run hc, lexiclean_eq_run h, h1, run_nil_relSt_reverse]

/-- cleaning before or after resolution against the working directory is the same: the directory
`verify` opens is determined by the cleaned root it prints -/
theorem resolve_of_cleaned (cs : List Bytes) (x : CPath) (hx : Rel x) :
    resolve (PC.root :: nm cs) (lexiclean x) = resolve (PC.root :: nm cs) x := by
  rw [resolve_eq, resolve_eq, stack_lexiclean cs (.inl hx)]

/-! non-vacuity: `d/t` gives `d/n`; `./n` does not stay `./n`; `b/../n` gives `n` -/
example : contentRoot none none (some [.normal [100], .normal [116]]) [.normal [110]] = [.normal [100], .normal [110]] := rfl
example : contentRoot none (some [.cur]) none [.normal [110]] = [.cur, .normal [110]] → False := by decide
example : contentRoot none (some [.normal [98], .parent]) none [.normal [110]] = [.normal [110]] := rfl

end Imdlv.C03
