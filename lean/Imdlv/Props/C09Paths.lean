import Imdlv.Lemmas.Paths
/-!
# C09 (where the default output lands) — beside the input, never onto it, never inside it

Without `--output`, `create` derives the target from the input path
(`CreateContent::torrent_path`). For every working directory and every input path that has a file
name, the resolved target is the input's *sibling* `<name>.torrent`: same parent directory, another
final component. Hence it is neither the input itself nor anything below the input - the clause "the
input is never touched" for the default target, for all spellings of the input (`foo/`, `foo/.`,
`./foo//`, `../x/foo`, absolute, …).
-/
namespace Imdlv.C09
open Imdlv Imdlv.Paths Imdlv.C02

/-- **The default target is the input's sibling `<name>.torrent`** -/
theorem default_output_is_sibling (cs : List Bytes) (input : CPath) (n nt : Bytes) (hshape : InputShape input)
    (hfn : fileName (resolve (PC.root :: nm cs) input) = some n) :
    ∃ pre, resolve (PC.root :: nm cs) input = pre ++ [PC.normal n] ∧
      resolve (PC.root :: nm cs) (torrentPath input [PC.normal nt]) = pre ++ [PC.normal nt] := by
  obtain ⟨rest, e⟩ := stack_of_fileName cs hfn
  refine ⟨rest.reverse, ?_, ?_⟩
  · rw [resolve_eq, e, List.reverse_cons]
  · rw [resolve_eq, stack_torrentPath cs hshape (by simp), e]; exact List.reverse_cons

/-- **Never onto the input, never inside it**: the resolved default target is different from the
resolved input and does not lie below it. -/
theorem default_output_outside_input (cs : List Bytes) (input out : CPath) (hshape : InputShape input)
    (hout : createDefaultOutput (PC.root :: nm cs) input = some out) :
    ¬ (resolve (PC.root :: nm cs) input) <+: (resolve (PC.root :: nm cs) out) := by
  obtain ⟨n, hfn, rfl⟩ := createDefaultOutput_some hout
  obtain ⟨pre, h1, h2⟩ := default_output_is_sibling cs input n (n ++ dotTorrent) hshape hfn
  rw [h1, h2, List.prefix_append_right_inj, List.cons_prefix_cons]
  intro ⟨e, _⟩
  -- `n = n ++ ".torrent"`
  have hl := congrArg List.length (PC.normal.inj e)
  simp [dotTorrent] at hl

/-! non-vacuity: `d/` from `/w/x` -/
example : createDefaultOutput [.root, .normal [119], .normal [120]] [.normal [100]]
    = some [.normal ([100] ++ dotTorrent)] := rfl

end Imdlv.C09
