import Imdlv.Lemmas.Verifier
/-!
# C13 — verify judges only files inside the content root

`leavesRoot` is the specification-level notion (lexical resolution of the raw
listed components, with `/` inside a component treated as a separator);
`isNormalComp` is the screening `Verifier::new` applies.
-/
namespace Imdlv.C13
open Imdlv Imdlv.Verifier

variable {δ ε : Type} [DecidableEq δ] [DecidableEq ε]

/-- a path whose lexical resolution leaves the root has a component the screening rejects -/
theorem leavesRoot_has_bad_component (p : RelPath) (h : leavesRoot p = true) :
    ∃ c ∈ p, isNormalComp c = false := by
  apply Classical.byContradiction
  intro hno
  have hall : ∀ c ∈ p, isNormalComp c = true := fun c hc =>
    (Bool.not_eq_false _).mp fun hn => hno ⟨c, hc, hn⟩
  rw [leavesRoot, lexWalk_normal p hall 0] at h
  cases h

/-- **Confinement**: if any listed path leaves the content root — whatever the
file system holds there, including a decoy with matching bytes — verification
does not succeed. For all torrents, file systems and read schedules. -/
theorem confined (H : Bytes → δ) (H5 : Bytes → ε) (t : Torrent δ ε) (fs : FS) (scheds : List (List Nat))
    (h : ∃ f ∈ entries t, leavesRoot f.path = true) : succeeds H H5 t fs scheds = false := by
  obtain ⟨f, hf, hl⟩ := h
  obtain ⟨c, hc, hb⟩ := leavesRoot_has_bad_component f.path hl
  refine Bool.eq_false_iff.mpr fun hs => ?_
  rw [(succeeds_iff.mp hs).1.2.2 f hf c hc] at hb
  cases hb

/-- the screening refuses before anything is read: the refusal does not depend on the file system -/
theorem refusal_ignores_fs (H : Bytes → δ) (H5 : Bytes → ε) (t : Torrent δ ε) (fs fs' : FS) (scheds : List (List Nat))
    (r : Refusal) (h : verify H H5 t fs scheds = .error r) : verify H H5 t fs' scheds = .error r :=
  (verify_error_iff H H5 t fs' scheds r).mpr ((verify_error_iff H H5 t fs scheds r).mp h)

/-- paths that pass the screening stay inside: every file system lookup of an
accepted run is strictly below the root (depth = number of components) -/
theorem accepted_paths_inside (p : RelPath) (h : ∀ c ∈ p, isNormalComp c = true) :
    lexWalk (some 0) p = some p.length := by
  simpa using lexWalk_normal p h 0

/-! non-vacuity: a path that climbs out (`../outside/secret`) -/
example : leavesRoot ["..".toUTF8.toList, "outside".toUTF8.toList, "secret".toUTF8.toList] = true := by decide +kernel
example : leavesRoot ["a".toUTF8.toList, "..".toUTF8.toList, "..".toUTF8.toList, "x".toUTF8.toList] = true := by decide +kernel
example : leavesRoot ["/etc".toUTF8.toList] = true := by decide +kernel
example : leavesRoot ["a/../../x".toUTF8.toList] = true := by rw [utf8_toList]; decide +kernel
example : leavesRoot ["a".toUTF8.toList, "b".toUTF8.toList] = false := by decide +kernel

end Imdlv.C13
