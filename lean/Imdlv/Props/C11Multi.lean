import Imdlv.Props.C11
/-!
# C11 (several peers) — whichever peer wins the race, what is written is authentic

`FromLink::run` asks every peer the trackers returned, in parallel, and takes the metadata of
*any one* that delivers (`peers.par_iter().find_map_any(..)`): which one is a matter of scheduling.
The model of that choice is a relation (`FindMapAny`): the outcome is the dictionary of some
successful fetch, and it is "none" only if every fetch failed. For every set of peers, every byte
stream each of them sends and every way the race may go: a torrent is written only from a
dictionary whose re-serialisation hashes to the link's infohash (`multi_writes_only_authentic`),
nothing is written exactly when no peer delivered (`multi_none_iff`), and one honest peer among any
number of lying ones is enough for a torrent to be written (`one_honest_peer_suffices`).
-/
namespace Imdlv.C11
open Imdlv Imdlv.Peer

variable {ι δ : Type} [DecidableEq δ]

/-- `find_map_any` over the per-peer results: any success may be the one returned; `none` only when
there is no success -/
def FindMapAny (results : List (Result ι)) (chosen : Option ι) : Prop :=
  match chosen with
  | some info => ∃ r ∈ results, ∃ reqs, r = Result.ok info reqs
  | none => ∀ r ∈ results, ∃ e reqs, r = Result.error e reqs

/-- **Whoever wins, the dictionary is authentic** -/
theorem multi_authentic (R : Readers ι) (H : Bytes → δ) (H20 : δ → Bytes) (target : δ) (streams : List Bytes)
    (info : ι) (h : FindMapAny (streams.map (fetch R H H20 target)) (some info)) :
    H (R.serialize info) = target := by
  obtain ⟨r, hr, reqs, rfl⟩ := h
  obtain ⟨incoming, _, hf⟩ := List.mem_map.mp hr
  exact authentic R H H20 target incoming info reqs hf

/-- what `from-link` writes with several peers: the wrapped dictionary of the chosen fetch -/
def multiOutput (wrap : ι → Bytes) (chosen : Option ι) : Option Bytes := chosen.map wrap

theorem multi_writes_only_authentic (R : Readers ι) (H : Bytes → δ) (H20 : δ → Bytes) (target : δ)
    (streams : List Bytes) (wrap : ι → Bytes) (chosen : Option ι) (out : Bytes)
    (hc : FindMapAny (streams.map (fetch R H H20 target)) chosen) (h : multiOutput wrap chosen = some out) :
    ∃ info, out = wrap info ∧ H (R.serialize info) = target := by
  obtain ⟨info, rfl, rfl⟩ := Option.map_eq_some_iff.mp h
  exact ⟨info, rfl, multi_authentic R H H20 target streams info hc⟩

/-- **Nothing is written exactly when every peer failed** -/
theorem multi_none_iff (results : List (Result ι)) (chosen : Option ι) (hc : FindMapAny results chosen) :
    chosen = none ↔ ∀ r ∈ results, ∃ e reqs, r = Result.error e reqs := by
  constructor
  · intro h; subst h; exact hc
  · intro hall
    cases chosen with
    | none => rfl
    | some info =>
      obtain ⟨r, hr, reqs, rfl⟩ := hc
      obtain ⟨e, reqs', he⟩ := hall _ hr
      cases he

/-- **One honest peer suffices**, however many others lie, stall or hang up -/
theorem one_honest_peer_suffices (R : Readers ι) (H : Bytes → δ) (H20 : δ → Bytes) (target : δ)
    (streams : List Bytes) (honest : Bytes) (hm : honest ∈ streams) (info : ι) (reqs : List Nat)
    (hf : fetch R H H20 target honest = Result.ok info reqs)
    (chosen : Option ι) (hc : FindMapAny (streams.map (fetch R H H20 target)) chosen) :
    ∃ info', chosen = some info' ∧ H (R.serialize info') = target := by
  cases chosen with
  | none =>
    obtain ⟨e, r, he⟩ := hc _ (List.mem_map_of_mem hm)
    rw [hf] at he; cases he
  | some info' => exact ⟨info', rfl, multi_authentic R H H20 target streams info' hc⟩

/-! non-vacuity: with no peer at all the only outcome is "none"; with a success in the list it can be chosen -/
example : FindMapAny ([] : List (Result Nat)) none := by intro r hr; cases hr
example : FindMapAny [Result.error .network [], Result.ok (7 : Nat) [0]] (some 7) :=
  ⟨_, by simp, [0], rfl⟩

end Imdlv.C11
