import Imdlv.Lemmas.Streams
/-!
# C18 / C19 (short writes) — what is printed arrives whole, whatever the descriptor does

For every payload and every behaviour of the underlying descriptor (every script of short writes and
failures): if no `write` fails, the descriptor receives exactly the payload and `write_all` reports
success (`delivers`); an inactive stream (`--quiet`) passes nothing on and never fails
(`inactive_silent`); and whenever `write_all` reports success the whole payload was delivered, so a
truncated output is never reported as success (`success_means_complete`) - a failure is reported
(exit status 1) and what was delivered until then is a prefix of the payload
(`delivered_is_prefix`).
-/
namespace Imdlv.C18
open Imdlv.WriteAll

/-- **Whatever the pattern of short writes, the payload arrives whole** -/
theorem delivers (data : Bytes) (script : List Int) (h : ∀ k ∈ script, 0 ≤ k) :
    writeAll true data script = (true, data) :=
  loop_delivers data.length data script (Nat.le_refl _) h

/-- **An inactive stream is silent and never fails** (`--quiet` on standard error) -/
theorem inactive_silent (data : Bytes) (script : List Int) : writeAll false data script = (true, []) := rfl

/-- **Success is never claimed for a truncated output** -/
theorem success_means_complete (data : Bytes) (script : List Int)
    (h : (writeAll true data script).1 = true) : (writeAll true data script).2 = data :=
  (loop_prefix data.length data script).2 h

/-- nothing but the payload reaches the descriptor, in order -/
theorem delivered_is_prefix (active : Bool) (data : Bytes) (script : List Int) :
    (writeAll active data script).2 <+: data := by
  cases active
  · exact List.nil_prefix
  · exact (loop_prefix data.length data script).1

/-- the outcome does not depend on how the writes were cut, as long as none fails -/
theorem schedule_independent (data : Bytes) (s₁ s₂ : List Int) (h₁ : ∀ k ∈ s₁, 0 ≤ k) (h₂ : ∀ k ∈ s₂, 0 ≤ k) :
    writeAll true data s₁ = writeAll true data s₂ := by
  rw [delivers data s₁ h₁, delivers data s₂ h₂]

/-- **The two models composed**: what reaches a descriptor, under every pattern of short writes, is
exactly what the stream model says the stream emits - the painted texts of the writes addressed to
it when it is active, nothing when it is not (`--quiet` on standard error). -/
theorem descriptor_receives_emitted (c : Imdlv.Streams.Config) (t : Imdlv.Streams.Target)
    (ws : List Imdlv.Streams.Write) (script : List Int) (h : ∀ k ∈ script, 0 ≤ k) :
    let s := match t with | .out => Imdlv.Streams.outStream c | .err => Imdlv.Streams.errStream c
    let data := ((ws.filter (·.target == t)).map (Imdlv.Streams.paint s.style)).flatten
    writeAll s.active data script = (true, Imdlv.Streams.emitted c t ws) := by
  intro s data
  show writeAll s.active data script = (true, if s.active = true then data else [])
  cases s.active
  · rfl
  · exact delivers data script h

/-! non-vacuity: five bytes in turns of 2, 1 and the rest; a failure after three bytes -/
example : writeAll true [1, 2, 3, 4, 5] [2, 1] = (true, [1, 2, 3, 4, 5]) := by decide +kernel
example : writeAll true [1, 2, 3, 4, 5] [2, 1, -1] = (false, [1, 2, 3]) := by decide +kernel
example : writeAll true [1, 2, 3] [0, 100] = (true, [1, 2, 3]) := by decide +kernel

end Imdlv.C18
