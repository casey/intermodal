import Imdlv.Lemmas.PathText
/-!
# C02 (default locations) — `verify` without `--content` looks exactly where `create` without
`--output` read its input

`create --input I` (no `--name`, no `--output`) names the torrent after the last component of the
*resolved* input and writes it to `I.join("..").lexiclean().join("<name>.torrent")`;
`verify --input T` (no `--content`, no `--base-directory`) looks for the content at
`T.join("..").join(<name>).lexiclean()`. Both are then resolved against the working directory.

That the second undoes the first is the path algebra behind the sentence "a torrent just created
from a file or directory verifies against it" for the default locations.
-/
namespace Imdlv.C02
open Imdlv Imdlv.Paths

theorem resolve_contentRoot_torrentPath (cs : List Bytes) (input : CPath) (n nt : Bytes) (hshape : InputShape input)
    (hfn : fileName (resolve (PC.root :: nm cs) input) = some n) :
    resolve (PC.root :: nm cs)
        (contentRoot none none (some (torrentPath input [PC.normal nt])) [PC.normal n])
      = resolve (PC.root :: nm cs) input := by
  obtain ⟨rest, e⟩ := stack_of_fileName cs hfn
  rw [resolve_eq, resolve_eq, stack_contentRoot cs (hshape.torrentPath (by simp)) (by simp),
    stack_torrentPath cs hshape (by simp), e]
  -- on the stack `n :: rest`: `..`, `nt`, `..`, `n` leads back to `n :: rest`
  rfl

/-- **Default locations are inverse to each other**: for every working directory (`/` followed by
names) and every non-empty input path, relative or absolute, with any mixture of `.`, `..` and names,
whose resolution has a file name at all (otherwise `create` refuses), the directory `verify` ends up
in by default is the directory `create` hashed. -/
theorem default_locations_inverse (cs : List Bytes) (input : CPath) (n nt : Bytes)
    (hne : input ≠ []) (hshape : InputShape input)
    (hfn : fileName (resolve (PC.root :: nm cs) input) = some n) :
    resolve (PC.root :: nm cs)
        (contentRoot none none (some (torrentPath input [PC.normal nt])) [PC.normal n])
      = resolve (PC.root :: nm cs) input :=
  resolve_contentRoot_torrentPath cs input n nt hshape hfn

/-- every path text has the shape the theorems ask for: `Path::components()` yields a root only in
front, and then no further root (nor `.`) -/
theorem comps_shape (p : Bytes) : InputShape (comps p) := by
  obtain ⟨pre, e, hpre⟩ := comps_cases p
  rw [e]
  rcases hpre with rfl | rfl | rfl
  · exact .inl (rel_segments p)
  · exact .inl (rel_cons.mpr ⟨nofun, rel_segments p⟩)
  · exact .inr ⟨_, rfl, rel_segments p⟩

/-- the same for path *texts*: whatever is typed after `--input` -/
theorem default_locations_inverse_text (cs : List Bytes) (inputText n nt : Bytes)
    (hne : comps inputText ≠ [])
    (hfn : fileName (resolve (PC.root :: nm cs) (comps inputText)) = some n) :
    resolve (PC.root :: nm cs)
        (contentRoot none none (some (torrentPath (comps inputText) [PC.normal nt])) [PC.normal n])
      = resolve (PC.root :: nm cs) (comps inputText) :=
  default_locations_inverse cs (comps inputText) n nt hne (comps_shape inputText) hfn

/-- with the name `create` itself picks -/
theorem created_default_verifies_in_place (cs : List Bytes) (input out : CPath) (n : Bytes)
    (hne : input ≠ []) (hshape : InputShape input)
    (hfn : fileName (resolve (PC.root :: nm cs) input) = some n)
    (hout : createDefaultOutput (PC.root :: nm cs) input = some out) :
    resolve (PC.root :: nm cs) (contentRoot none none (some out) [PC.normal n])
      = resolve (PC.root :: nm cs) input := by
  obtain ⟨n', hfn', rfl⟩ := createDefaultOutput_some hout
  cases hfn.symm.trans hfn'
  exact default_locations_inverse cs input n _ hne hshape hfn

/-- the resolved location is a clean absolute path: `/` followed by names only -/
theorem resolve_clean (cs : List Bytes) (p : CPath) (hshape : InputShape p) :
    ∃ l, resolve (PC.root :: nm cs) p = PC.root :: nm l := by
  obtain ⟨l, e⟩ := stack_absSt cs hshape
  exact ⟨l.reverse, by rw [resolve_eq, e, absSt_reverse, nm_reverse]⟩

/-- resolving what has been resolved changes nothing (the code resolves the input twice, and the
walker is handed a resolved root: a second cleaning must not move it) -/
theorem resolve_idempotent (cs : List Bytes) (p : CPath) (hshape : InputShape p) :
    resolve (PC.root :: nm cs) (resolve (PC.root :: nm cs) p) = resolve (PC.root :: nm cs) p := by
  obtain ⟨l, e⟩ := stack_absSt cs hshape
  rw [resolve_eq cs p, e, resolve_eq, stack_absSt_reverse]

/-! non-vacuity: `../b/./c` from `/w/x` resolves to `/w/b/c`, the torrent goes to `../b/c.torrent`,
and `verify` on that looks in `../b/c` -/
section nonvacuous
def cwdEx : List Bytes := [[119], [120]]
def inEx : CPath := [.parent, .normal [98], .cur, .normal [99]]
example : inEx ≠ [] ∧ fileName (resolve (PC.root :: nm cwdEx) inEx) = some [99] := ⟨nofun, rfl⟩
example : resolve (PC.root :: nm cwdEx) inEx = [.root, .normal [119], .normal [98], .normal [99]] := rfl
example : createDefaultOutput (PC.root :: nm cwdEx) inEx
    = some [.parent, .normal [98], .normal ([99] ++ dotTorrent)] := rfl
example : contentRoot none none (some [.parent, .normal [98], .normal ([99] ++ dotTorrent)]) [.normal [99]]
    = [.parent, .normal [98], .normal [99]] := rfl
end nonvacuous

end Imdlv.C02
