import Imdlv.Lemmas.ByteSizeFrac
/-!
# C16 — byte-size notation is parsed exactly and printed consistently

The model replaces every `f64` step of `src/bytes.rs` by exact integer
arithmetic (`rn53`, `floorScaled`, `hundredths`); the correspondence check
compares it with the real code on unit boundaries, rounding ties and random
values. Theorems are about that model, for all inputs.
-/
namespace Imdlv.C16
open Imdlv.ByteSize

/-- the suffix table extracted from the source is the documented one -/
theorem suffix_table_documented : Consts.suffixTable =
    [([], 1), (['b'], 1), (['b','y','t','e'], 1), (['b','y','t','e','s'], 1),
     (['k','i','b'], 2 ^ 10), (['m','i','b'], 2 ^ 20), (['g','i','b'], 2 ^ 30),
     (['t','i','b'], 2 ^ 40), (['p','i','b'], 2 ^ 50), (['e','i','b'], 2 ^ 60)] := by
  decide +kernel

theorem display_consts : Consts.displayStep = 1024 ∧ Consts.displaySuffixes.length = 6 := by decide

/-- **Integers are parsed exactly**: a decimal integer `n` followed by any
spelling `u` (any letter case) of a unit with multiplier `mult` denotes exactly
`n · mult` whenever the product fits in 53 bits. -/
theorem parse_integer_exact (n mult : Nat) (u : List Char)
    (hu : ∀ c ∈ u, isNumCh c = false)
    (hl : lookupSuffix (u.map lowerAscii) Consts.suffixTable = some mult)
    (hfit : n * mult < 2 ^ 53) :
    parseBytes (natChars' n ++ u) = .ok (n * mult) := by
  have := parseBytes_eq (natChars' n) u _ 0 mult (all_isNumCh (natChars'_all_digits n)) hu
    (parseDecimal_digits (natChars'_all_digits n) (natChars'_ne_nil n)) hl
  rw [digitsVal_natChars', Nat.pow_zero, Nat.div_one] at this
  exact this hfit

/-- **Decimal fractions scale the same way, truncated to whole bytes**: digits `ip`, a dot, digits
`fp` (not both empty) and any spelling `u` of a unit with multiplier `mult` denote exactly
`⌊N · mult / 10^d⌋` — `N` the digits read as one number, `d` the number of decimals — whenever
`N · mult` fits in 53 bits. The double-precision detour (round `N/10^d` to 53 bits, multiply, cast)
never reaches the neighbouring integer and keeps exact products exact. -/
theorem parse_fraction_trunc (ip fp u : List Char) (mult : Nat)
    (hip : ip.all isDigitCh = true) (hfp : fp.all isDigitCh = true) (hne : ¬ (ip = [] ∧ fp = []))
    (hu : ∀ c ∈ u, isNumCh c = false)
    (hl : lookupSuffix (u.map lowerAscii) Consts.suffixTable = some mult)
    (hfit : digitsVal (ip ++ fp) * mult < 2 ^ 53) :
    parseBytes (ip ++ '.' :: fp ++ u) = .ok (digitsVal (ip ++ fp) * mult / 10 ^ fp.length) := by
  have hall : (ip ++ '.' :: fp).all isNumCh = true := by
    rw [List.all_append, List.all_cons, all_isNumCh hip, all_isNumCh hfp]; rfl
  exact parseBytes_eq _ u _ _ mult hall hu (parseDecimal_frac ip fp hip hfp hne) hl hfit

/-- unknown suffix ⇒ rejected -/
theorem parse_rejects_unknown_suffix (text : List Char)
    (h : lookupSuffix ((text.dropWhile isNumCh).map lowerAscii) Consts.suffixTable = none) :
    ∃ e, parseBytes text = .error e := by
  simp only [parseBytes]
  cases parseDecimal (text.takeWhile isNumCh) with
  | none => exact ⟨_, rfl⟩
  | some p => simp only [h]; exact ⟨_, rfl⟩

/-- malformed number ⇒ rejected, whatever follows -/
theorem parse_rejects_bad_number (text : List Char)
    (h : parseDecimal (text.takeWhile isNumCh) = none) :
    parseBytes text = .error .number := by
  simp only [parseBytes, h]

/-- no digit at all (empty, or only dots) is a malformed number -/
theorem no_digit_is_malformed (ds : List Char) (h : ds.all (· == '.') = true) :
    parseDecimal ds = none := by
  match ds, h with
  | [], _ => rfl
  | [c], h =>
    obtain rfl : c = '.' := by simpa using h
    decide
  | c :: d :: t, h =>
    obtain ⟨rfl, rfl, _⟩ : c = '.' ∧ d = '.' ∧ _ := by simpa using h
    simp [parseDecimal, isDigitCh_dot]

/-- two dots is a malformed number -/
theorem two_dots_is_malformed (a b c : List Char) (ha : a.all isDigitCh = true) :
    parseDecimal (a ++ '.' :: (b ++ '.' :: c)) = none := by
  obtain ⟨h1, h2⟩ := takeWhile_dropWhile_append isDigitCh a ('.' :: (b ++ '.' :: c)) ha (by simp [isDigitCh_dot])
  unfold parseDecimal
  rw [h1, h2]
  -- the fraction `b ++ '.' :: c` is not all digits
  simp [isDigitCh_dot]

/-- **Printed unit**: the largest binary unit not exceeding the value, judged on
the value rounded to double precision. -/
theorem display_unit_largest (n : Nat) (hn : n < 2 ^ 64) (h1 : 1 ≤ round53 n) (hb : round53 n < 2 ^ 70) :
    1024 ^ (shown n).unit ≤ round53 n ∧ round53 n < 1024 ^ ((shown n).unit + 1) := by
  obtain ⟨h2, h3⟩ := unitIndex_spec (round53 n) hb
  simp only [shown]
  refine ⟨h2.elim id fun h0 => ?_, h3⟩
  rw [h0]; exact h1

/-- **Error bound**: the printed two-decimal value differs from the (double
rounded) value by at most half a hundredth of the printed unit. -/
theorem display_error_bound (n : Nat) :
    let s := shown n
    let unit := 1024 ^ s.unit
    2 * (s.hundredths * unit - round53 n * 100) ≤ unit ∧ 2 * (round53 n * 100 - s.hundredths * unit) ≤ unit := by
  have hs : Consts.displayStep = 1024 := display_consts.1
  simp only [shown, hs, hundredths_eq_rhe]
  exact rhe_bound _ _ (Nat.pow_pos (by omega))

/-- below 2^53 the double rounding is the identity, so the bound is about the true value -/
theorem display_exact_below_2_53 (n : Nat) (h : n < 2 ^ 53) : round53 n = n := round53_small n h

/-- **`byte` only for exactly 1** -/
theorem display_byte_iff_one (n : Nat) (h : n < 2 ^ 53) : (shown n).singular = true ↔ n = 1 := by
  simp only [shown, round53_small n h, Bool.and_eq_true, beq_iff_eq]
  constructor
  · intro h; exact h.2
  · intro h; subst h; decide +kernel

/-- **At most two decimals, no trailing zeros, no trailing dot** -/
theorem frac_shape (f : Nat) :
    let cs := fracChars (f % 100)
    cs.length ≤ 3 ∧ cs.getLast? ≠ some '0' ∧ cs.getLast? ≠ some '.' ∧ (cs = [] ↔ f % 100 = 0) := by
  have hf : f % 100 < 100 := Nat.mod_lt _ (by decide)
  generalize f % 100 = g at hf
  unfold fracChars
  -- the last character, if any, is `digitCh j` for a `j` with non-zero last digit
  by_cases h0 : g = 0
  · simp [h0]
  by_cases h10 : g % 10 = 0
  · simpa [h0, h10] using digitCh_ne (g / 10) (by omega)
  · simpa [h0, h10] using digitCh_ne (g % 10) (by rwa [Nat.mod_mod])

example : parseBytes "12KiB".toList = .ok 12288 := by decide +kernel
example : parseBytes "1.5mib".toList = .ok 1572864 := by decide +kernel
example : parseBytes "100foo".toList = .error .suffix := by decide +kernel
example : parseBytes "1.0.0foo".toList = .error .number := by decide +kernel
example : natChars' 12 ++ ['K','i','B'] = "12KiB".toList := by decide +kernel
example : displayBytes 1572864 = "1.5 MiB".toList := by decide +kernel
example : displayBytes 1 = "1 byte".toList := by decide +kernel

/-- `1.5KiB` is 1536 bytes, `0.3kib` is ⌊307.2⌋ = 307 -/
example : parseBytes "1.5KiB".toList = .ok 1536 ∧ parseBytes "0.3kib".toList = .ok 307 ∧ parseBytes "2.999999mib".toList = .ok 3145726 := by
  decide +kernel

end Imdlv.C16
