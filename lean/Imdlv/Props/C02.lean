import Imdlv.Lemmas.Verifier
import Imdlv.Lemmas.LoadRoundTrip
/-!
# C02 — a created torrent verifies against its content and fails after any real change

`createTorrent` is the create side at model level: the C01 hasher model
(`hashFiles`) over the listed files under any read schedules, packaged as the
torrent's piece length, piece hashes and file list. Theorems hold for every
file system state reachable by any edit history (a state is an arbitrary `FS`).
-/
namespace Imdlv.C02
open Imdlv Imdlv.Verifier Imdlv.Hasher

variable {δ ε : Type} [DecidableEq δ] [DecidableEq ε]

/-- multi-file torrent created from `files` (listed path, bytes at creation) -/
def createTorrent (H : Bytes → δ) (H5 : Bytes → ε) (p : Nat) (md5 : Bool)
    (files : List (RelPath × Bytes)) (scheds : List (List Nat)) : Torrent δ ε :=
  let r := hashFiles p (files.zipIdx.map fun (f, i) => (f.2, scheds.getD i []))
  { pieceLength := p
    pieces := r.1.map H
    mode := .multiple (files.zipIdx.map fun (f, i) =>
      { path := f.1, length := (r.2.getD i []).length, md5 := if md5 then some (H5 (r.2.getD i [])) else none }) }

omit [DecidableEq δ] [DecidableEq ε] in
/-- The created torrent as a record in which the read schedules no longer occur (by C01). -/
theorem createTorrent_spec (H : Bytes → δ) (H5 : Bytes → ε) (p : Nat) (hp : 0 < p) (md5 : Bool)
    (files : List (RelPath × Bytes)) (scheds : List (List Nat)) :
    createTorrent H H5 p md5 files scheds =
      { pieceLength := p
        pieces := (chunks p (files.map Prod.snd).flatten).map H
        mode := .multiple (files.map fun f =>
          { path := f.1, length := f.2.length, md5 := if md5 then some (H5 f.2) else none }) } := by
  unfold createTorrent
  simp only []
  rw [hashFiles_eq p hp, map_fst_map_zipIdx Prod.snd (fun _ => rfl)]
  congr 2
  -- the index is only used to look the file's own bytes up again
  exact map_zipIdx_eq_map fun (f, i) hx => by dsimp only; rw [getD_map_of_mem_zipIdx Prod.snd [] hx]

/-- what `createTorrent` amounts to (by C01): chunk hashes of the concatenation, exact lengths and MD5s -/
theorem createTorrent_eq (H : Bytes → δ) (H5 : Bytes → ε) (p : Nat) (hp : 0 < p) (md5 : Bool)
    (files : List (RelPath × Bytes)) (scheds : List (List Nat)) :
    (createTorrent H H5 p md5 files scheds).pieces = (chunks p (files.map Prod.snd).flatten).map H ∧
    entries (createTorrent H H5 p md5 files scheds) =
      files.map fun f => { path := f.1, length := f.2.length, md5 := if md5 then some (H5 f.2) else none } := by
  rw [createTorrent_spec H H5 p hp]
  exact ⟨rfl, rfl⟩

/-- S of C02: every listed file currently is a regular file holding its bytes at creation -/
def unchanged (fs : FS) (files : List (RelPath × Bytes)) : Prop :=
  ∀ f ∈ files, fs f.1 = .file f.2

/-- What success on a created torrent says: the screening passes, every listed
file is a regular file of its original length (and MD5 when listed), and the
blocks of the current bytes have the digests of the blocks at creation. -/
theorem succeeds_created_iff (H : Bytes → δ) (H5 : Bytes → ε) (p : Nat) (md5 : Bool)
    (files : List (RelPath × Bytes)) (cs vs : List (List Nat)) (fs : FS) :
    succeeds H H5 (createTorrent H H5 p md5 files cs) fs vs = true ↔
      (0 < p ∧ p < 2 ^ 32 ∧ ∀ f ∈ files, ∀ c ∈ f.1, isNormalComp c = true) ∧
      (∀ f ∈ files, ∃ b, fs f.1 = .file b ∧ b.length = f.2.length ∧ (md5 = true → H5 b = H5 f.2)) ∧
      (chunks p (files.map fun f => hashed fs f.1).flatten).map H =
        (chunks p (files.map Prod.snd).flatten).map H := by
  rw [succeeds_iff]
  by_cases hp : 0 < p
  case neg => exact ⟨fun h => absurd h.1.1 hp, fun h => absurd h.1.1 hp⟩
  rw [createTorrent_spec H H5 p hp]
  unfold verifySpec concatOf entries
  simp only [List.forall_mem_map, List.all_map, List.map_map, Bool.and_eq_true, List.all_eq_true, decide_eq_true_eq,
    Function.comp_def, fileOk_iff]
  have hmd5 : ∀ x y : ε, (∀ e, (if md5 = true then some y else none) = some e → x = e) ↔
      (md5 = true → x = y) := by cases md5 <;> simp
  simp only [hmd5]

/-- **Unmodified content verifies** — for every state in which the listed files
hold their original bytes (unlisted files are arbitrary), under any schedules. -/
theorem verify_created_of_unchanged (H : Bytes → δ) (H5 : Bytes → ε) (p : Nat) (hp0 : 0 < p) (hp1 : p < 2 ^ 32)
    (md5 : Bool) (files : List (RelPath × Bytes)) (cs vs : List (List Nat))
    (hn : ∀ f ∈ files, ∀ c ∈ f.1, isNormalComp c = true)
    (fs : FS) (h : unchanged fs files) :
    succeeds H H5 (createTorrent H H5 p md5 files cs) fs vs = true := by
  have hcur : (files.map fun f => hashed fs f.1) = files.map Prod.snd :=
    List.map_congr_left fun f hf => hashed_of_file (h f hf)
  exact (succeeds_created_iff H H5 p md5 files cs vs fs).mpr
    ⟨⟨hp0, hp1, hn⟩, fun f hf => ⟨f.2, h f hf, rfl, fun _ => rfl⟩, by rw [hcur]⟩

/-- success means unchanged up to a collision, for every piece length and every list of files -/
theorem unchanged_of_succeeds (H : Bytes → δ) (H5 : Bytes → ε) (p : Nat) (md5 : Bool)
    (files : List (RelPath × Bytes)) (cs vs : List (List Nat)) (fs : FS)
    (h : succeeds H H5 (createTorrent H H5 p md5 files cs) fs vs = true) :
    unchanged fs files ∨ ∃ b1 b2 : Bytes, b1 ≠ b2 ∧ H b1 = H b2 := by
  obtain ⟨⟨hp0, _⟩, hnode, hhash⟩ := (succeeds_created_iff H H5 p md5 files cs vs fs).mp h
  rcases map_eq_or_collision H hhash with heq | ⟨b1, b2, _, _, hne, hh⟩
  · left
    -- equal blocks: equal concatenations; equal lengths file by file: equal files
    have hflat := congrArg List.flatten heq
    rw [chunks_flatten p hp0, chunks_flatten p hp0] at hflat
    have hfile : ∀ f ∈ files, fs f.1 = .file (hashed fs f.1) ∧ (hashed fs f.1).length = f.2.length :=
      fun f hf => by
        obtain ⟨b, hb, hl, _⟩ := hnode f hf
        rw [hashed_of_file hb]; exact ⟨hb, hl⟩
    intro f hf
    rw [(hfile f hf).1, flatten_map_inj (fun f => hashed fs f.1) Prod.snd files hflat
      (fun g hg => (hfile g hg).2) f hf]
  · right; exact ⟨b1, b2, hne, hh⟩

/-- **Success means unchanged, up to a SHA-1 collision**: if verification of a
created torrent succeeds in some state, then every listed file is a regular
file holding exactly its bytes at creation — or the run exhibits two different
blocks with equal digests. No injectivity assumption on `H`. -/
theorem unchanged_of_verify_created (H : Bytes → δ) (H5 : Bytes → ε) (p : Nat) (hp0 : 0 < p) (hp1 : p < 2 ^ 32)
    (md5 : Bool) (files : List (RelPath × Bytes)) (cs vs : List (List Nat))
    (hn : ∀ f ∈ files, ∀ c ∈ f.1, isNormalComp c = true)
    (fs : FS) (h : succeeds H H5 (createTorrent H H5 p md5 files cs) fs vs = true) :
    unchanged fs files ∨ ∃ b1 b2 : Bytes, b1 ≠ b2 ∧ H b1 = H b2 :=
  unchanged_of_succeeds H H5 p md5 files cs vs fs h

/-- **Undoing the edits restores success** and **unlisted files are irrelevant**:
corollaries — the verdict is a function of the listed files' current state only. -/
theorem revert_restores (H : Bytes → δ) (H5 : Bytes → ε) (p : Nat) (hp0 : 0 < p) (hp1 : p < 2 ^ 32)
    (md5 : Bool) (files : List (RelPath × Bytes)) (cs vs : List (List Nat))
    (hn : ∀ f ∈ files, ∀ c ∈ f.1, isNormalComp c = true)
    (fs₀ fs₂ : FS) (h0 : unchanged fs₀ files) (hrev : ∀ f ∈ files, fs₂ f.1 = fs₀ f.1) :
    succeeds H H5 (createTorrent H H5 p md5 files cs) fs₂ vs = true :=
  verify_created_of_unchanged H H5 p hp0 hp1 md5 files cs vs hn fs₂ (fun f hf => by rw [hrev f hf]; exact h0 f hf)

/-! ## through the file format: create → write → load → verify

The theorems above speak about the verifier's `Torrent` record. Here the record goes through
the real file format: `Create::run` assembles a typed metainfo (C05's `createMetainfo`) from the
hasher's result, serialises it, `verify` loads the bytes back (C07's `load_written`) and cuts the
piece string into 20-byte digests. -/

section chain
open Imdlv.Metainfo Imdlv.Load

/-- the verifier's view of a loaded metainfo (`Metainfo::verify`): the piece string cut into digests -/
def torrentOf (m : MetainfoM) : Torrent Bytes Bytes :=
  { pieceLength := m.info.pieceLength
    pieces := chunks 20 m.info.pieces
    mode := match m.info.mode with
      | .single n md5 => .single n md5
      | .multiple fs => .multiple (fs.map fun f => { path := f.path, length := f.length, md5 := f.md5 }) }

/-- what `Create::run` hands to the metainfo for a directory input: listed files with their hashed lengths and MD5s -/
def createdMode (H5 : Bytes → Bytes) (p : Nat) (md5 : Bool) (files : List (RelPath × Bytes)) (scheds : List (List Nat)) : ModeM :=
  let r := hashFiles p (files.zipIdx.map fun (f, i) => (f.2, scheds.getD i []))
  .multiple (files.zipIdx.map fun (f, i) =>
    { path := f.1, length := (r.2.getD i []).length, md5 := if md5 then some (H5 (r.2.getD i [])) else none })

/-- … and the piece string: the digests of the blocks, concatenated -/
def createdPieces (H : Bytes → Bytes) (p : Nat) (files : List (RelPath × Bytes)) (scheds : List (List Nat)) : Bytes :=
  ((hashFiles p (files.zipIdx.map fun (f, i) => (f.2, scheds.getD i []))).1.map H).flatten

/-- the loaded view of what `create` assembled is the verifier-level torrent of the theorems above -/
theorem torrentOf_created (H H5 : Bytes → Bytes) (hH : ∀ b, (H b).length = 20) (o : CreateOpts) (cb : Bytes) (now : Nat)
    (md5 : Bool) (files : List (RelPath × Bytes)) (cs : List (List Nat)) :
    torrentOf (createMetainfo o cb now (createdMode H5 o.pieceLength md5 files cs) (createdPieces H o.pieceLength files cs)) =
      createTorrent H H5 o.pieceLength md5 files cs := by
  unfold torrentOf createMetainfo createdMode createdPieces createTorrent
  simp only
  congr 1
  · exact chunks_flatten_uniform 20 (by decide) _ (List.forall_mem_map.mpr fun b _ => hH b)
  · exact congrArg Mode.multiple List.map_map

/-- **A torrent that `imdl` has just created verifies against the unmodified input** — through
the file: for every option record, clock value, tree of files with plain path components, read
schedules on both sides, digest functions of the right widths, and every file-system state in
which the listed files hold their bytes at creation: the loader accepts the written bytes and the
verifier, run on what was loaded, succeeds. -/
theorem created_file_verifies (urlOk : Bytes → Bool) (H H5 : Bytes → Bytes) (hH : ∀ b, (H b).length = 20)
    (o : CreateOpts) (cb : Bytes) (now : Nat) (md5 : Bool) (files : List (RelPath × Bytes)) (cs vs : List (List Nat))
    (hp0 : 0 < o.pieceLength) (hp1 : o.pieceLength < 2 ^ 32)
    (hn : ∀ f ∈ files, ∀ c ∈ f.1, isNormalComp c = true)
    (hT : (createMetainfo o cb now (createdMode H5 o.pieceLength md5 files cs) (createdPieces H o.pieceLength files cs)).Typed urlOk)
    (hpaths : pathsOk (createdMode H5 o.pieceLength md5 files cs) = true)
    (s : Nat) (hsize : contentSize? (createdMode H5 o.pieceLength md5 files cs) = some s)
    (fs : FS) (hun : unchanged fs files) :
    ∃ m span,
      loadTorrent urlOk (createMetainfo o cb now (createdMode H5 o.pieceLength md5 files cs)
        (createdPieces H o.pieceLength files cs)).serialize = .ok m span ∧
      succeeds H H5 (torrentOf m) fs vs = true := by
  refine ⟨_, _, load_serialize urlOk _ hT hpaths s hsize, ?_⟩
  rw [torrentOf_created H H5 hH]
  exact verify_created_of_unchanged H H5 o.pieceLength hp0 hp1 md5 files cs vs hn fs hun

end chain

/-! ## Non-vacuity of `created_file_verifies`: its typing hypothesis holds for a concrete creation -/
section nonvacuous
open Imdlv.Metainfo Imdlv.Load Imdlv.Peer
def H0 : Bytes → Bytes := fun _ => List.replicate 20 7
def H50 : Bytes → Bytes := fun _ => List.replicate 16 9
def o0 : CreateOpts :=
  { announce := some (str "http://t/a"), tiers := [], comment := none, source := none, nodes := [],
    updateUrl := none, name := str "n", pieceLength := 2, priv := false, noCreatedBy := true, noCreationDate := true }
def files0 : List (RelPath × Bytes) := [([[97]], [1, 2, 3])]
example : (createMetainfo o0 [] 0 (createdMode H50 2 true files0 []) (createdPieces H0 2 files0 [])).Typed (fun _ => true) := by
  have hm : createdMode H50 2 true files0 [] =
      .multiple [{ path := [[97]], length := 3, md5 := some (List.replicate 16 9) }] := by decide +kernel
  refine ⟨?_, nofun, nofun, nofun, nofun, ?_, ⟨by decide, by decide +kernel, by decide +kernel, nofun,
    by decide +kernel, by decide +kernel, ?_, nofun⟩, nofun⟩
  · intro s hs; cases hs; exact ⟨by decide +kernel, by decide +kernel⟩
  · intro s hs; cases hs; exact ⟨by decide +kernel, by decide +kernel⟩
  · show (createdMode H50 2 true files0 []).Typed
    rw [hm]
    intro f hf
    cases List.mem_singleton.mp hf
    exact ⟨by decide, fun c hc => by cases List.mem_singleton.mp hc; exact ⟨by decide +kernel, by decide⟩,
      fun m hm => by cases hm; rfl⟩
end nonvacuous

end Imdlv.C02
