import Imdlv.Lemmas.Tracker
/-!
# C12 — UDP tracker exchange follows BEP 15 and trusts only matching replies

For all transaction ids, connection ids, infohashes, peer ids, ports, reply
datagrams and drop patterns.
-/
namespace Imdlv.C12
open Imdlv Imdlv.Tracker

/-- the source-extracted constants are the BEP 15 ones the property states -/
theorem consts_bep15 :
    Consts.udpMagic = 0x41727101980 ∧ Consts.connectReqLen = 16 ∧ Consts.connectRespLen = 16 ∧
    Consts.announceReqLen = 98 ∧ Consts.announceRespLen = 20 ∧ Consts.udpRetries = 3 ∧
    Consts.strideV4 = 6 ∧ Consts.strideV6 = 18 ∧ Consts.annLeft ≠ 0 ∧ Consts.annNumWant ≠ 0 := by decide

theorem field_order :
    Consts.connectFieldOrder = ["protocol_id", "action", "transaction_id"] ∧
    Consts.announceFieldOrder = ["connection_id", "action", "transaction_id", "infohash", "peer_id", "downloaded",
      "left", "uploaded", "event", "ip_address", "num_want", "port"] := ⟨rfl, rfl⟩

/-- **Connect request layout**: 16 bytes — protocol magic, action 0, transaction id. -/
theorem connect_layout (tid : Nat) :
    (connectReq tid).length = 16 ∧
    ofBE ((connectReq tid).take 8) = 0x41727101980 ∧
    ofBE (((connectReq tid).drop 8).take 4) = 0 ∧
    ofBE ((connectReq tid).drop 12) = tid % 2 ^ 32 := by
  simp [connectReq, drop_append_of_length_le, List.take_left', toBE_length, ofBE_toBE]
  decide -- left: `Consts.udpMagic % 2 ^ 64 = 0x41727101980`

/-- **Announce request layout**: 98 bytes — the connection id, action 1,
transaction id, the infohash at bytes 16..36, a non-zero `left` at 64..72,
the port in the last two bytes. -/
theorem announce_layout (cid tid port : Nat) (ih pid : Bytes) (hih : ih.length = 20) (hpid : pid.length = 20) :
    let r := announceReq cid tid ih pid port
    r.length = 98 ∧
    ofBE (r.take 8) = cid % 2 ^ 64 ∧
    ofBE ((r.drop 8).take 4) = 1 ∧
    ofBE ((r.drop 12).take 4) = tid % 2 ^ 32 ∧
    (r.drop 16).take 20 = ih ∧
    ofBE ((r.drop 64).take 8) ≠ 0 ∧
    ofBE (r.drop 96) = port % 2 ^ 16 := by
  simp [announceReq, drop_append_of_length_le, List.take_left', toBE_length, hih, hpid, ofBE_toBE]
  decide -- left: `Consts.annLeft % 2 ^ 64 ≠ 0`

/-- **At most three sends** per request, whatever is (not) received. -/
theorem sends_le_three (bufLen minLen act tid : Nat) (replies : List (Option Bytes)) :
    (exchange bufLen minLen act tid replies).1 ≤ 3 :=
  show _ ≤ Consts.udpRetries from exchange_fst .. ▸ recvLoop_fst_le ..

/-- a request answered at the first attempt is sent exactly once -/
theorem answered_once (bufLen : Nat) (d : Bytes) (rest : List (Option Bytes)) :
    (recvLoop bufLen Consts.udpRetries (some d :: rest)).1 = 1 := rfl

/-- **A reply is used only if it is long enough and echoes action and transaction id.** -/
theorem accept_iff (bufLen minLen act tid : Nat) (replies : List (Option Bytes)) (d : Bytes) (hmin : 0 < minLen) :
    (exchange bufLen minLen act tid replies).2 = .ok d ↔
      (recvLoop bufLen Consts.udpRetries replies).2 = some d ∧ accepted minLen act tid d := by
  simp only [exchange, accepted]
  cases (recvLoop bufLen Consts.udpRetries replies).2 with
  | none => simp
  | some e =>
    -- `ok d` says that none of the three guards fired and `e = d`; that no guard fired is `accepted`
    -- by arithmetic in `e.length` and the two header fields (an empty datagram is too short, as `0 < minLen`)
    simp only [apply_ite Prod.snd, ite_eq_iff_of_ne, ne_eq, reduceCtorEq, not_false_eq_true, Except.ok.injEq, Option.some.injEq]
    constructor
    · rintro ⟨_, _, _, rfl⟩; exact ⟨rfl, by omega⟩
    · rintro ⟨rfl, _⟩; refine ⟨?_, ?_, ?_, rfl⟩ <;> omega

/-- wrong transaction id, error action or truncated header ⇒ reported failure, never peers -/
theorem mismatch_rejected (bufLen minLen act tid : Nat) (replies : List (Option Bytes)) (d : Bytes) (hmin : 0 < minLen)
    (hr : (recvLoop bufLen Consts.udpRetries replies).2 = some d) (hbad : ¬ accepted minLen act tid d) :
    ∃ e, (exchange bufLen minLen act tid replies).2 = .error e := by
  cases h : (exchange bufLen minLen act tid replies).2 with
  | error e => exact ⟨e, rfl⟩
  | ok d' =>
    obtain ⟨h1, h2⟩ := (accept_iff bufLen minLen act tid replies d' hmin).mp h
    cases hr.symm.trans h1
    exact absurd h2 hbad

/-- **Peers are exactly the fixed-size records of the accepted reply**; a ragged list is rejected. -/
theorem peers_exact (stride : Nat) (hs : 0 < stride) (p : Bytes) (l : List Bytes) :
    parsePeers stride p = .ok l ↔ p.length % stride = 0 ∧ l = chunks stride p ∧ ∀ r ∈ l, r.length = stride := by
  unfold parsePeers records
  split
  · next h => simp [h]
  · next h =>
    have h : p.length % stride = 0 := Decidable.not_not.mp h
    have hmap := chunks_lengths stride hs p
    rw [if_pos h, List.append_nil] at hmap
    have hlen := List.forall_mem_map.mp (List.eq_replicate_iff.mp hmap).2
    exact ⟨fun e => Except.ok.inj e ▸ ⟨h, rfl, hlen⟩, fun ⟨_, e, _⟩ => e ▸ rfl⟩

theorem ragged_rejected (stride : Nat) (p : Bytes) (h : p.length % stride ≠ 0) :
    parsePeers stride p = .error .peerList := by
  simp [parsePeers, h]

theorem records_rejoin (stride : Nat) (hs : 0 < stride) (p : Bytes) : (records stride p).flatten = p :=
  chunks_flatten stride hs p

/-- the connection id used in the announce is the one just received -/
theorem announce_uses_received_cid (stride ctid atid : Nat) (cr ar : List (Option Bytes)) (cid : Nat)
    (h : (runTracker stride ctid atid cr ar).2 = some cid) :
    ∃ d, (exchange Consts.connectRespLen Consts.connectRespLen 0 ctid cr).2 = .ok d ∧ cid = ofBE ((d.drop 8).take 8) :=
  runTracker_cid h

/-- the receive buffer holds the largest possible UDP datagram -/
theorem rx_buffer_holds_any_datagram : 65535 ≤ Consts.rxBufLen := by decide

/-- **The printed peers are exactly the records of the reply the tracker sent**: when the exchange
with a tracker yields a peer list, it is the list of all fixed-size records that follow the 20-byte
header of one of the datagrams sent in answer to the announce — none dropped, whatever its size
(a UDP datagram carries at most 65535 bytes). -/
theorem peers_are_records_of_sent_reply (stride : Nat) (ctid atid : Nat) (cr ar : List (Option Bytes)) (l : List Bytes)
    (hsize : ∀ a, some a ∈ ar → a.length ≤ 65535)
    (h : (runTracker stride ctid atid cr ar).1.result = .ok l) :
    ∃ a, some a ∈ ar ∧ parsePeers stride (a.drop Consts.announceRespLen) = .ok l := by
  obtain ⟨_, a', _, hy, h⟩ := runTracker_result_ok h
  obtain ⟨a, ha, rfl⟩ := recvLoop_mem ((accept_iff _ _ _ _ _ a' (by decide)).mp hy).1
  -- the datagram fits the buffer, so it was received uncut
  rw [List.take_of_length_le (Nat.le_trans (hsize a ha) rx_buffer_holds_any_datagram)] at h
  exact ⟨a, ha, h⟩

/-- **No invented peers, each once**: everything printed is a record of some
accepted reply, and nothing is printed twice. -/
theorem no_invented_peers (outcomes : List TrackerOutcome) :
    (∀ x ∈ (announceCommand outcomes).2, ∃ l, TrackerOutcome.peers l ∈ outcomes ∧ x ∈ l) ∧
    (announceCommand outcomes).2.Nodup :=
  ⟨fun x => (mem_announceCommand outcomes x).mp, nodup_announceCommand outcomes⟩

/-- **Every record of every accepted reply is printed**, whatever the other trackers of the torrent did. -/
theorem all_accepted_peers_printed (outcomes : List TrackerOutcome) (l : List Bytes) (x : Bytes)
    (hl : TrackerOutcome.peers l ∈ outcomes) (hx : x ∈ l) : x ∈ (announceCommand outcomes).2 :=
  (mem_announceCommand outcomes x).mpr ⟨l, hl, hx⟩

/-- exit status 1 exactly when no tracker was usable -/
theorem exit_status (outcomes : List TrackerOutcome) :
    (announceCommand outcomes).1 = 1 ↔ ∀ o ∈ outcomes, (match o with | .skipped => True | _ => False) := by
  rw [announceCommand_exit]
  exact forall₂_congr fun o _ => by cases o <;> simp

/-- a tracker's note does not depend on what the other trackers did -/
theorem notes_append (a b : List TrackerOutcome) : announceNotes (a ++ b) = announceNotes a ++ announceNotes b :=
  List.filterMap_append

/-- **Every tracker whose exchange failed is reported, and so is every skipped one**: one note per such tracker, in order,
and none for a tracker that returned peers. -/
theorem every_failure_reported (outcomes : List TrackerOutcome) :
    (announceNotes outcomes).count .failed = outcomes.countP (fun o => match o with | .announceFailed => true | _ => false) ∧
    (announceNotes outcomes).count .skipped = outcomes.countP (fun o => match o with | .skipped => true | _ => false) := by
  simp only [announceNotes, List.count_filterMap]
  constructor <;> congr 1 <;> funext o <;> cases o <;> rfl

/-- **Non-UDP or port-less tracker URLs are skipped.** -/
theorem non_udp_skipped (scheme : String) (hasHost hasPort : Bool) :
    screen scheme hasHost hasPort = .ok ↔ scheme = "udp" ∧ hasHost = true ∧ hasPort = true := by
  by_cases h : scheme = "udp" <;> simp [screen, h]

example : connectReq 0x01020304 = [0, 0, 4, 0x17, 0x27, 0x10, 0x19, 0x80, 0, 0, 0, 0, 1, 2, 3, 4] := by decide +kernel
example : (exchange 16 16 0 7 [none, some ([0,0,0,0, 0,0,0,7, 1,2,3,4,5,6,7,8])]).1 = 2 := by decide +kernel
example : records 6 [1,2,3,4,0,80, 5,6,7,8,1,0] = [[1,2,3,4,0,80], [5,6,7,8,1,0]] := by decide +kernel

example : announceNotes [.announceFailed, .peers [[1]], .skipped, .announceFailed] = [.failed, .skipped, .failed] := by decide
example : [1] ∈ (announceCommand [.announceFailed, .peers [[1]]]).2 := by decide

end Imdlv.C12
