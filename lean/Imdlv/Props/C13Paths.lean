import Imdlv.Lemmas.Verifier
import Imdlv.Lemmas.PathText
/-!
# C13 (tie to the path model) — what the screening accepts is, as a path, one normal component

`Verifier::new` accepts a listed component only if `Path::new(component).components()` yields exactly
one `Normal` equal to it; the verifier model abbreviates that as `isNormalComp` (non-empty, not `.`,
not `..`, no separator). Here the abbreviation is justified against the model of `std::path`
(`Imdlv.Paths.comps`), and `FilePath::absolute` - successive `PathBuf::push` of the raw components -
is shown to produce the root followed by exactly those names: nothing is replaced, nothing climbs.
-/
namespace Imdlv.C13
open Imdlv Imdlv.Verifier

theorem isNormalComp_iff_segOk (c : Bytes) : isNormalComp c = true ↔ Paths.SegOk c := isNormalComp_iff c

/-- **The screening is the std::path test**: an accepted component parses to exactly one normal
component, itself. -/
theorem isNormalComp_comps (c : Bytes) (h : isNormalComp c = true) : Paths.comps c = [Paths.PC.normal c] :=
  Paths.comps_of_name ((isNormalComp_iff_segOk c).mp h)

/-- and a rejected one does not: each way of failing the test is a way of not being one plain name -/
theorem not_normal_comps (c : Bytes) (h : isNormalComp c = false) :
    c = [] ∨ c = [46] ∨ c = [46, 46] ∨ c.contains 47 = true := by
  rw [Decidable.or_iff_not_imp_left, Decidable.or_iff_not_imp_left, Decidable.or_iff_not_imp_left]
  intro h1 h2 h3
  cases h4 : c.contains 47 with
  | true => rfl
  | false => rw [(isNormalComp_iff_segOk c).mpr ⟨h1, h2, h3, h4⟩] at h; cases h

/-- `FilePath::absolute`: push every listed component, as text, onto the root -/
def absolute (root : Paths.CPath) (p : RelPath) : Paths.CPath :=
  p.foldl (fun acc c => Paths.joinC acc (Paths.comps c)) root

theorem absolute_eq (root : Paths.CPath) (p : RelPath) (h : ∀ c ∈ p, isNormalComp c = true) :
    absolute root p = root ++ p.map Paths.PC.normal := by
  induction p generalizing root with
  | nil => exact (List.append_nil _).symm
  | cons c t ih =>
    have ⟨hc, ht⟩ := List.forall_mem_cons.mp h
    rw [absolute, List.foldl_cons, isNormalComp_comps c hc, Paths.joinC_single_normal]
    exact (ih _ ht).trans (List.append_assoc ..)

/-- **Accepted paths stay below the root, literally**: the absolute path is the root followed by
the listed names - no component is dropped, replaced or turned into a step upwards. -/
theorem absolute_of_accepted (root : Paths.CPath) (hroot : root ≠ []) :
    ∀ (p : RelPath), (∀ c ∈ p, isNormalComp c = true) → absolute root p = root ++ p.map Paths.PC.normal :=
  absolute_eq root

/-- resolved against a clean absolute content root the accepted path is clean too: `/`, the root's
names, the listed names - so every lookup is at a location whose lexical form is inside the root -/
theorem accepted_resolves_inside (cs : List Bytes) (p : RelPath) (h : ∀ c ∈ p, isNormalComp c = true) :
    absolute (Paths.PC.root :: Paths.nm cs) p = Paths.PC.root :: Paths.nm (cs ++ p) := by
  rw [absolute_eq _ p h, Paths.nm_append]; rfl

/-! `../s` climbs out of `/d`; an absolute component replaces the root -/
example : absolute [.root, .normal [100]] [[46, 46], [115]] = [.root, .normal [100], .parent, .normal [115]] := rfl
example : absolute [.root, .normal [100]] [[47, 101]] = [.root, .normal [101]] := rfl

end Imdlv.C13
