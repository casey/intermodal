import Imdlv.Lemmas.HostOk
/-!
# C17 — host:port values survive every representation

Theorems are parametric in the host parser/printers (`url::Host`), with the
facts they need as explicit hypotheses; the second part discharges them for the
concrete parser and printers of the model (`hostOk_show_parses`).
-/
namespace Imdlv.C17
open Imdlv.HostPort

section generic
variable (hostParse : List Char → Option Host) (hostShow pairShow : Host → List Char)

/-- **Printed form parses back to the identical value.** -/
theorem display_parse (h : Host) (p : Nat) (hp : p < 65536)
    (hrt : hostParse (hostShow h) = some h) (hnl : (hostShow h).contains '\n' = false) :
    parse hostParse (display hostShow (h, p)) = .ok (h, p) := by
  obtain ⟨d1, d2⟩ := natChars_digits p
  show parse hostParse (hostShow h ++ [':'] ++ natChars p) = _
  rw [List.append_assoc, List.singleton_append, parse_snoc _ _ _ (contains_false_of_all d1 (by decide)),
    if_neg (by rw [d1, hnl]; simp [natChars_ne_nil]), hrt, d2]
  exact if_pos hp

/-- parsing, printing and parsing again is stable: the normalised form is a fixed point -/
theorem parse_display_stable (s : List Char) (h : Host) (p : Nat)
    (hok : parse hostParse s = .ok (h, p))
    (hrt : hostParse (hostShow h) = some h) (hnl : (hostShow h).contains '\n' = false) :
    parse hostParse (display hostShow (h, p)) = .ok (h, p) :=
  display_parse hostParse hostShow h p (parse_ok hok).2 hrt hnl

/-- **Re-reading the stored pair yields the identical value**, given that the
pair's host text (bracketed again when it contains a colon) parses back. -/
theorem bencode_roundtrip (h : Host) (p : Nat)
    (hrt : hostParse (if (pairShow h).contains ':' then ['['] ++ pairShow h ++ [']'] else pairShow h) = some h) :
    ofPair hostParse (toPair pairShow (h, p)) = some (h, p) := by
  show Option.map (fun x => (x, p)) (hostParse (if (pairShow h).contains ':' then ['['] ++ pairShow h ++ [']'] else pairShow h)) = some (h, p)
  rw [hrt]; rfl

/-- the stored pair is `[host text, port]` with the port unchanged -/
theorem pair_shape (h : Host) (p : Nat) : toPair pairShow (h, p) = (pairShow h, p) := rfl

theorem rejects_no_colon (s : List Char) (h : s.contains ':' = false) :
    parse hostParse s = .error .portMissing := by
  unfold parse
  rw [splitLastColon_none s h]

theorem rejects_empty_port (hs : List Char) : parse hostParse (hs ++ [':']) = .error .portMissing := by
  rw [parse_snoc hostParse hs [] rfl]
  rfl

theorem rejects_nondigit_port (hs ds : List Char) (hc : ds.contains ':' = false) (hd : ds.all isDigitCh = false) :
    parse hostParse (hs ++ ':' :: ds) = .error .portMissing := by
  rw [parse_snoc hostParse hs ds hc, hd, if_pos (by simp)]

/-- ports above 65535 are rejected -/
theorem rejects_large_port (hs : List Char) (n : Nat) (hn : 65536 ≤ n) :
    ∃ e, parse hostParse (hs ++ ':' :: natChars n) = .error e := by
  obtain ⟨d1, d2⟩ := natChars_digits n
  rw [parse_snoc hostParse hs _ (contains_false_of_all d1 (by decide)), d2]
  split
  · exact ⟨_, rfl⟩
  · cases hostParse hs with
    | none => exact ⟨_, rfl⟩
    | some host => exact ⟨_, if_neg (by omega)⟩

/-- a host the host parser rejects (empty, forbidden characters, unbracketed IPv6) is rejected -/
theorem rejects_bad_host (hs ds : List Char) (hc : ds.contains ':' = false) (hbad : hostParse hs = none) :
    ∃ e, parse hostParse (hs ++ ':' :: ds) = .error e := by
  rw [parse_snoc hostParse hs ds hc, hbad]
  split <;> exact ⟨_, rfl⟩

end generic

/-- empty host is rejected -/
theorem concrete_rejects_empty : hostParseOpt [] = none := by decide

/-- an unbracketed host containing a colon (IPv6 without brackets) is rejected -/
theorem concrete_rejects_unbracketed_colon (s : List Char) (h0 : s.head? ≠ some '[')
    (hc : s.contains ':' = true) (hascii : s.any (fun c => c == '%' || c.toNat ≥ 128) = false) :
    hostParseOpt s = none := by
  -- `hascii` is not used: texts outside the model are no hosts for `hostParseOpt` either
  cases hp : hostParseOpt s with
  | none => rfl
  | some h =>
    rcases hostParseOpt_some_cases s h hp with ⟨hb, _⟩ | ⟨_, hl⟩
    · exact absurd hb h0
    · exact absurd (hl ':' (by simpa using hc)) (by decide)

/-- the IPv6 text printed for `HOST:PORT` is bracketed; domains and IPv4 print without brackets -/
theorem concrete_show_shapes (segs : List Nat) :
    (hostShowUrl (.ipv6 segs)).head? = some '[' ∧ (hostShowUrl (.ipv6 segs)).getLast? = some ']' := by
  refine ⟨rfl, ?_⟩
  rw [hostShowUrl, List.getLast?_append]
  rfl

/-- the host parser returns only well-formed domains (lower-case letters, digits, `-`, `.`;
no `xn--` label; not ending in a number) -/
theorem parsed_domain_ok (s d : List Char) (h : hostParseOpt s = some (.domain d)) : DomainOk d :=
  hostParseOpt_ok s _ h

/-- **C17 for the whole modelled host language, no hypothesis about the host parser left**: every
well-formed host of any kind with any port survives both round trips -/
theorem concrete_round_trips (h : Host) (p : Nat) (hh : HostOk h) (hp : p < 65536) :
    parse hostParseOpt (display hostShowUrl (h, p)) = .ok (h, p) ∧
      ofPair hostParseOpt (toPair hostShowPair (h, p)) = some (h, p) :=
  have ⟨h1, h2, h3⟩ := hostOk_show_parses h hh
  ⟨display_parse _ _ h p hp h1 h2, bencode_roundtrip _ _ h p h3⟩

/-- **Every IPv4 address and port survive `HOST:PORT`**: printed as dotted decimal, parsed back by
the WHATWG host parser of the model (which also knows hexadecimal, octal and short forms) to the
identical value -/
theorem ipv4_display_parse (n p : Nat) (hn : n < 2 ^ 32) (hp : p < 65536) :
    parse hostParseOpt (display hostShowUrl (.ipv4 n, p)) = .ok (.ipv4 n, p) :=
  (concrete_round_trips (.ipv4 n) p hn hp).1

/-- … and the stored `[host, port]` pair -/
theorem ipv4_bencode_roundtrip (n p : Nat) (hn : n < 2 ^ 32) :
    ofPair hostParseOpt (toPair hostShowPair (.ipv4 n, p)) = some (.ipv4 n, p) :=
  bencode_roundtrip _ _ _ p (hostOk_show_parses (.ipv4 n) hn).2.2

/-- **Every IPv6 address and port survive `HOST:PORT`**: url's compressed lower-hex text in brackets
parses back to the identical eight groups — the elided run is zeros only, the printed `::` is the
only double colon, and every hex group reads back as its value -/
theorem ipv6_display_parse (segs : List Nat) (p : Nat) (hl : segs.length = 8) (hs : ∀ x ∈ segs, x < 65536)
    (hp : p < 65536) :
    parse hostParseOpt (display hostShowUrl (.ipv6 segs, p)) = .ok (.ipv6 segs, p) :=
  (concrete_round_trips (.ipv6 segs) p ⟨hl, hs⟩ hp).1

/-- … and the stored `[host, port]` pair: std's text (with the dotted tail of IPv4-mapped
addresses) always contains a colon, so the reader brackets it again, and it parses back -/
theorem ipv6_bencode_roundtrip (segs : List Nat) (p : Nat) (hl : segs.length = 8) (hs : ∀ x ∈ segs, x < 65536) :
    ofPair hostParseOpt (toPair hostShowPair (.ipv6 segs, p)) = some (.ipv6 segs, p) :=
  bencode_roundtrip _ _ _ p (hostOk_show_parses (.ipv6 segs) ⟨hl, hs⟩).2.2

/-- **every well-formed domain with any port survives `HOST:PORT`** -/
theorem domain_display_parse (d : List Char) (p : Nat) (hd : DomainOk d) (hp : p < 65536) :
    parse hostParseOpt (display hostShowUrl (.domain d, p)) = .ok (.domain d, p) :=
  (concrete_round_trips (.domain d) p hd hp).1

/-- … and the stored pair -/
theorem domain_bencode_roundtrip (d : List Char) (p : Nat) (hd : DomainOk d) :
    ofPair hostParseOpt (toPair hostShowPair (.domain d, p)) = some (.domain d, p) :=
  bencode_roundtrip _ _ _ p (hostOk_show_parses (.domain d) hd).2.2

/-- **Whatever text `HOST:PORT` parsing accepts, its value survives both representations**: the
parser returns only well-formed hosts (`hostParseOpt_ok`), so no hypothesis about the value remains —
print it and parse the print, or store the pair and read it back: the identical value -/
theorem accepted_text_round_trips (s : List Char) (h : Host) (p : Nat)
    (hok : parse hostParseOpt s = .ok (h, p)) :
    parse hostParseOpt (display hostShowUrl (h, p)) = .ok (h, p) ∧
      ofPair hostParseOpt (toPair hostShowPair (h, p)) = some (h, p) :=
  have ⟨⟨hs, hh⟩, hp⟩ := parse_ok hok
  concrete_round_trips h p (hostParseOpt_ok hs h hh) hp

/-- the printed form of an accepted text is a fixed point of parse-then-print -/
theorem normal_form_fixed (s : List Char) (h : Host) (p : Nat) (hok : parse hostParseOpt s = .ok (h, p)) :
    (parse hostParseOpt (display hostShowUrl (h, p))).map (display hostShowUrl) =
      .ok (display hostShowUrl (h, p)) := by
  rw [(accepted_text_round_trips s h p hok).1]; rfl

/-! ## Non-vacuity: concrete instances through the model's own host parser -/
example : parse hostParseOpt "imdl.com:12".toList = .ok (.domain "imdl.com".toList, 12) := by decide +kernel
example : parse hostParseOpt "[2001:db8::1]:65535".toList = .ok (.ipv6 [0x2001, 0xdb8, 0, 0, 0, 0, 0, 1], 65535) := by
  decide +kernel
example : display hostShowUrl (.ipv6 [0x2001, 0xdb8, 0, 0, 0, 0, 0, 1], 80) = "[2001:db8::1]:80".toList := by decide +kernel
example : parse hostParseOpt "0x7f.1:1".toList = .ok (.ipv4 0x7f000001, 1) := by decide +kernel
example : hostShowPair (.ipv6 [0, 0, 0, 0, 0, 0xffff, 0x0102, 0x0304]) = "::ffff:1.2.3.4".toList := by decide +kernel
example : parse hostParseOpt "host:65536".toList = .error .port := by decide +kernel
example : parse hostParseOpt "::1:80".toList = .error .host := by decide +kernel

end Imdlv.C17
