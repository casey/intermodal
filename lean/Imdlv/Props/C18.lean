import Imdlv.Lemmas.Streams
/-!
# C18 — payload on stdout, chatter on stderr, silence under --quiet, honest exit codes

For every configuration (`NO_COLOR`, `TERM`, tty-ness of both descriptors,
`--color`, `--terminal`, `--quiet`) and every list of writes a command performs.
-/
namespace Imdlv.C18
open Imdlv.Streams

/-- **`--quiet` leaves standard error empty**, whatever the command writes there -/
theorem quiet_silences_err (c : Config) (ws : List Write) (hq : c.quiet = true) : emitted c .err ws = [] := by
  simp only [emitted, errStream_active, hq, Bool.not_true, Bool.false_eq_true, if_false]

/-- `--quiet` never touches standard output -/
theorem quiet_keeps_stdout (c : Config) (ws : List Write) :
    emitted { c with quiet := true } .out ws = emitted { c with quiet := false } .out ws := rfl

/-- **Standard output carries exactly the writes addressed to it, in order** — chatter
and diagnostics written to the error stream never reach it -/
theorem stdout_only_out_writes (c : Config) (ws : List Write) (h : ∀ w ∈ ws, w.target = .err) :
    emitted c .out ws = [] := by
  have : ws.filter (·.target == Target.out) = [] :=
    List.filter_eq_nil_iff.2 fun w hw => by simp [h w hw]
  rw [emitted_out, this]; rfl

/-- the style decision for standard output -/
theorem out_style_iff (c : Config) :
    (outStream c).style = true ↔
      c.color = .always ∨ (c.color = .auto ∧ c.noColor = false ∧ c.termDumb = false ∧ c.ttyOut = true) := by
  rw [outStream_style]
  cases c.color <;> simp [envStyle, and_assoc]

/-- **No escape sequences on a non-terminal standard output unless `--color always`**,
for escape-free data — `--terminal` does not change that -/
theorem no_escape_on_pipe (c : Config) (ws : List Write) (htty : c.ttyOut = false) (hcol : c.color ≠ .always)
    (hdata : ∀ w ∈ ws, esc ∉ w.text) : esc ∉ emitted c .out ws := by
  have hs : (outStream c).style = false := Bool.eq_false_iff.mpr fun h =>
    ((out_style_iff c).mp h).elim hcol fun h' => Bool.false_ne_true (htty.symm.trans h'.2.2.2)
  rw [stdout_plain c ws hs]
  intro hmem
  simp only [List.mem_flatten, List.mem_map, List.mem_filter] at hmem
  obtain ⟨l, ⟨w, ⟨hw, _⟩, rfl⟩, hin⟩ := hmem
  exact hdata w hw hin

/-- **Exit status**: 0 on success (and help/version), 1 on every reported failure including usage errors -/
theorem exit_code_map (o : Outcome) :
    (exitCode o = 0 ↔ (o = .ok ∨ o = .helpOrVersion)) ∧ (exitCode o = 1 ↔ (o = .failed ∨ o = .usage)) := by
  cases o <;> simp [exitCode]

/-- with `--quiet` the error stream is inactive, without it active; standard output is always active -/
theorem activity_table : ∀ (nc td to te tm q : Bool) (col : UseColor),
    let c : Config := ⟨nc, td, to, te, col, tm, q⟩
    (outStream c).active = true ∧ (errStream c).active = !q :=
  fun _ _ _ _ _ _ _ => ⟨outStream_active _, errStream_active _⟩

/-- **`--quiet` also silences what is drawn past the streams** (spinners, progress bars): under `--quiet` nothing of the
kind exists, whatever the terminal, colour and environment settings -/
theorem quiet_no_progress (c : Config) (hq : c.quiet = true) : progressDrawn c = false := by
  simp [progressDrawn, hq]

/-- without `--quiet` they are drawn exactly on a styled terminal (so never into a pipe unless `--terminal` and colour
are forced) -/
theorem progress_iff (c : Config) (hq : c.quiet = false) :
    progressDrawn c = ((errStream c).style && (errStream c).term) := by
  have : ({ c with quiet := false } : Config) = c := by cases c; cases hq; rfl
  simp [progressDrawn, hq, this]

example : progressDrawn ⟨false, false, false, true, .auto, false, false⟩ = true := by decide +kernel
example : progressDrawn ⟨false, false, false, true, .auto, false, true⟩ = false := by decide +kernel
example : emitted ⟨false, false, false, false, .auto, true, false⟩ .out
    [⟨.err, .chatter, [1], true⟩, ⟨.out, .payload, [2, 3], true⟩, ⟨.err, .diagnostic, [4], true⟩] = [2, 3] := by decide +kernel
example : emitted ⟨false, false, false, false, .always, false, false⟩ .out [⟨.out, .payload, [2], true⟩]
    = [27, 91, 49, 109, 2, 27, 91, 48, 109] := by decide +kernel

end Imdlv.C18
