import Imdlv.Props.C02Paths
/-!
# C02 (default locations, through the text) — the path `create` writes to, typed back to `verify`

`default_locations_inverse` speaks about component lists. What the user handles is text: `create`
writes the torrent to the path text `render T`, and `verify --input <that text>` parses it again
with `Path::components()`; the torrent's `name` is stored as text and joined as a path. This file
closes the loop: under every working directory whose names are well-formed, the text of the default
target parses back to the components it was rendered from, and the stored name to the single name it
is.
-/
namespace Imdlv.C02
open Imdlv Imdlv.Paths

/-- the default name is a well-formed name, and the default target is a path the text interface
round-trips -/
theorem torrentPath_textOk (cs : List Bytes) (input : CPath) (n : Bytes) (hshape : InputShape input)
    (hok : NamesOk input) (hcs : ∀ s ∈ cs, SegOk s)
    (hfn : fileName (resolve (PC.root :: nm cs) input) = some n) :
    SegOk n ∧ TextOk (torrentPath input [PC.normal (n ++ dotTorrent)]) := by
  obtain ⟨rest, e⟩ := stack_of_fileName cs hfn
  have hn : SegOk n := namesOk_stack hcs hok n (e ▸ List.mem_cons_self)
  exact ⟨hn, textOk_torrentPath hshape hok (segOk_append hn (by decide) (by decide))⟩

/-- **From text to text**: whatever is typed after `create --input`, the path the torrent is written
to, typed after `verify --input`, leads `verify` (no `--content`) to the directory `create` read. -/
theorem created_then_verified_by_text (cs : List Bytes) (hcs : ∀ s ∈ cs, SegOk s) (inputText n : Bytes)
    (hne : comps inputText ≠ [])
    (hfn : fileName (resolve (PC.root :: nm cs) (comps inputText)) = some n) :
    let written := render (torrentPath (comps inputText) [PC.normal (n ++ dotTorrent)])
    resolve (PC.root :: nm cs) (contentRoot none none (some (comps written)) (comps n))
      = resolve (PC.root :: nm cs) (comps inputText) := by
  intro written
  obtain ⟨hn, htext⟩ := torrentPath_textOk cs (comps inputText) n (comps_shape inputText) (comps_namesOk inputText) hcs hfn
  have h1 : comps written = torrentPath (comps inputText) [PC.normal (n ++ dotTorrent)] := comps_render _ htext
  rw [h1, comps_of_name hn]
  exact default_locations_inverse_text cs inputText n _ hne hfn

/-! non-vacuity: `create --input ../b/./c/` from `/w/x` writes `../b/c.torrent`; that text parses back -/
example : render (torrentPath (comps "../b/./c/".toUTF8.toList) [PC.normal ("c".toUTF8.toList ++ dotTorrent)])
    = "../b/c.torrent".toUTF8.toList := by simp only [utf8_toList]; decide +kernel
example : fileName (resolve (PC.root :: nm [[119], [120]]) (comps "../b/./c/".toUTF8.toList)) = some "c".toUTF8.toList := by
  simp only [utf8_toList]; decide +kernel

end Imdlv.C02
