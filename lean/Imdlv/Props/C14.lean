import Imdlv.Lemmas.Lints
/-!
# C14 — create enforces its validity rules, and each `--allow` lifts exactly one

For every piece length `p : Nat` (no bound), every allow set and every
private/announce combination.
-/
namespace Imdlv.C14
open Imdlv.Lints

/-- the extracted threshold is the documented 16 KiB -/
theorem threshold_is_16KiB : Consts.smallPieceThreshold = 16 * 1024 := by decide

/-- the lint names are the documented ones -/
theorem lint_names : Consts.lintNames = [Lint.privateTrackerless.name, Lint.smallPieceLength.name, Lint.unevenPieceLength.name] :=
  rfl

/-- **A lint rejection names a lint that is actually violated and not allowed.** -/
theorem named_lint_sound (allow : Lint → Bool) (p : Nat) (priv ann : Bool) (e : Err) (l : Lint)
    (h : createDecision allow p priv ann = .error e) (hl : lintOf e = some l) :
    violated p priv ann l = true ∧ allow l = false := by
  simpa only [h, Justified, hl] using createDecision_justified allow p priv ann

/-- a rejection that names no lint is the zero or the 2^32 rule -/
theorem reject_nonlint (allow : Lint → Bool) (p : Nat) (priv ann : Bool) (e : Err)
    (h : createDecision allow p priv ann = .error e) (hl : lintOf e = none) :
    p = 0 ∨ p ≥ 2 ^ 32 := by
  simpa only [h, Justified, hl] using createDecision_justified allow p priv ann

/-- **Complete characterisation of acceptance**: a request is accepted exactly
when the piece length is non-zero, below 2^32, and every lint it violates is
allowed; the accepted run records the piece length exactly as given. -/
theorem accept_iff (allow : Lint → Bool) (p q : Nat) (priv ann : Bool) :
    createDecision allow p priv ann = .ok q ↔
      q = p ∧ p ≠ 0 ∧ p < 2 ^ 32 ∧
      (∀ l, violated p priv ann l = true → allow l = true) := by
  constructor
  · intro h; have hj := createDecision_justified allow p priv ann; rwa [h] at hj
  · rintro ⟨rfl, h⟩; exact createDecision_ok h

theorem zero_rejected (allow : Lint → Bool) (priv ann : Bool) :
    ∃ e, createDecision allow 0 priv ann = .error e :=
  createDecision_error fun h => h.1 rfl

theorem too_large_rejected (allow : Lint → Bool) (p : Nat) (priv ann : Bool) (hp : p ≥ 2 ^ 32) :
    ∃ e, createDecision allow p priv ann = .error e :=
  createDecision_error fun h => Nat.not_le.mpr h.2.1 hp

/-- each lint rejects unless allowed -/
theorem violated_and_denied_rejected (allow : Lint → Bool) (p : Nat) (priv ann : Bool) (l : Lint)
    (hv : violated p priv ann l = true) (hd : allow l = false) :
    ∃ e, createDecision allow p priv ann = .error e :=
  createDecision_error fun h => Bool.false_ne_true (hd ▸ h.2.2 l hv)

/-- uneven: exactly the non-powers of two (`isPow2_iff`) -/
theorem uneven_iff (p : Nat) (priv ann : Bool) (hp : p ≠ 0) :
    violated p priv ann .unevenPieceLength = true ↔ ¬ ∃ k, p = 2 ^ k := by
  rw [← isPow2_iff]
  simp [violated, hp]

theorem small_iff (p : Nat) (priv ann : Bool) :
    violated p priv ann .smallPieceLength = true ↔ p < 16 * 1024 := by
  simp [violated, threshold_is_16KiB]

theorem private_iff (p : Nat) (priv ann : Bool) :
    violated p priv ann .privateTrackerless = true ↔ (priv = true ∧ ann = false) := by
  simp [violated]

/-- **Allowing one lint never disables another.** -/
theorem allow_never_disables_another (allow : Lint → Bool) (p : Nat) (priv ann : Bool) (l l' : Lint)
    (hne : l' ≠ l) (hv : violated p priv ann l' = true) (hd : allow l' = false) :
    ∃ e, createDecision (fun x => allow x || x == l) p priv ann = .error e := by
  apply violated_and_denied_rejected _ p priv ann l' hv
  simp [hd, hne]

/-- **Each `--allow` lifts exactly one rule**: if adding `l` to the allow set
turns a rejection into acceptance, the rejection was lint `l`. -/
theorem allow_lifts_exactly_one (allow : Lint → Bool) (p q : Nat) (priv ann : Bool) (l : Lint) (e : Err)
    (hrej : createDecision allow p priv ann = .error e)
    (hacc : createDecision (fun x => allow x || x == l) p priv ann = .ok q) :
    lintOf e = some l := by
  obtain ⟨_, hz, hb, hall⟩ := (accept_iff _ p q priv ann).mp hacc
  cases hl : lintOf e with
  | none => have := reject_nonlint allow p priv ann e hrej hl; omega
  | some l0 =>
    obtain ⟨hv, hd⟩ := named_lint_sound allow p priv ann e l0 hrej hl
    have := hall l0 hv
    simp [hd] at this
    rw [this]

example : createDecision (fun _ => false) 16384 false false = .ok 16384 := by decide +kernel
example : createDecision (fun _ => false) 16383 false false = .error .uneven := by decide +kernel
example : createDecision (fun l => l == .unevenPieceLength) 16383 false false = .error .small := by decide +kernel
example : createDecision (fun _ => true) (2 ^ 32) false false = .error .tooLarge := by decide +kernel
example : createDecision (fun _ => false) 16384 true false = .error .privateTrackerless := by decide +kernel

end Imdlv.C14
