import Imdlv.Generated.Consts
import Imdlv.Lemmas.Magnet
/-!
# C10 — magnet links carry the infohash, name, trackers, peers and selection faithfully

For every name, tracker URL text, peer text (arbitrary byte strings) and index
list. The encoder applies `escape` to the name, the tracker and the peer texts; the `xt` and `so`
values consist of bytes `escape` would copy (`Magnet.segments_eq`).
-/
namespace Imdlv.C10
open Imdlv Imdlv.Magnet

/-- the url crate's query pass changes nothing: what `to_url` assembles is what is printed -/
theorem url_pass_identity (l : Link) : toUrl l = b "magnet:?" ++ toQuery l := by
  rw [toUrl, toQuery_eq, urlQueryPass_stable _ (printQuery_stable fun kv h x hx => (expectedPairs_keys l kv h x hx).1)]

/-- **A standard query-string parser decodes the printed link to exactly the
intended pairs** — with or without `+`-as-space, for all names, trackers, peers. -/
theorem link_decodes (pa : Bool) (l : Link) : stdParse pa (toQuery l) = expectedPairs l := by
  rw [toQuery_eq]
  exact stdParse_printQuery pa (by simp [expectedPairs]) (expectedPairs_keys l)

/-- **The parser accepts only links with a 40-hex `urn:btih` topic**, and the
infohash it returns is that topic's value. -/
theorem accepts_only_btih40 (pairs : List (Bytes × Bytes)) (ih : Bytes) (h : findTopic pairs = .ok ih) :
    ∃ v, (b "xt", v) ∈ pairs ∧ v.take 9 = b "urn:btih:" ∧ (v.drop 9).length = 40 ∧ unhex40 (v.drop 9) = some ih := by
  induction pairs with
  | nil => cases h
  | cons kv t ihyp =>
    obtain ⟨k, v⟩ := kv
    obtain ⟨rfl, hv⟩ | h := findTopic_cons_ok h
    · exact ⟨v, List.mem_cons_self, hv⟩
    · obtain ⟨v', hm, rest⟩ := ihyp h
      exact ⟨v', List.mem_cons_of_mem _ hm, rest⟩

theorem rejects_without_topic (urlOk peerOk : Bytes → Bool) (pairs : List (Bytes × Bytes))
    (h : ∀ v, (b "xt", v) ∈ pairs → v.take 9 ≠ b "urn:btih:") :
    parsePairs urlOk peerOk pairs = .error .topicMissing := by
  rw [parsePairs_eq, findTopic_missing h]

/-- **`so` is ascending and de-duplicated**, and holds exactly the given indices -/
theorem so_ascending_nodup (xs : List Nat) :
    (indexSet xs).Pairwise (· < ·) ∧ ∀ a, a ∈ indexSet xs ↔ a ∈ xs :=
  ⟨List.foldlRecOn xs _ .nil fun _ hs x _ => insertIdx_sorted x hs,
    fun _ => (mem_foldl_insertIdx xs []).trans (or_iff_right List.not_mem_nil)⟩

/-- **One `tr` per distinct tracker, in first-appearance order, announce first** -/
theorem trackers_dedup_order (announce : Option Bytes) (tiers : List (List Bytes)) :
    (trackers announce tiers).Nodup ∧
    (∀ a, a ∈ trackers announce tiers ↔ a ∈ announce.toList ++ tiers.flatten) ∧
    (trackers announce tiers).Sublist (announce.toList ++ tiers.flatten) ∧
    (∀ a, announce = some a → (trackers announce tiers).head? = some a) := by
  obtain ⟨h1, h2, h3⟩ := dedupFirst_props (announce.toList ++ tiers.flatten) []
  refine ⟨h1, ?_, h3, ?_⟩
  · exact fun a => (h2 a).trans (and_iff_left List.not_mem_nil)
  · rintro a rfl; rfl

/-! non-vacuity: a name with `& = + % #` and a space -/
def sampleLink : Link where
  infohash := List.replicate 20 0xab
  name := some (b "a&b=c+d e%41#f")
  trackers := [b "http://t/ann?x=1&y=2"]
  peers := [b "[::1]:80"]
  indices := [2, 4, 6]

example : stdParse false (toQuery sampleLink)
    = [(b "xt", b "urn:btih:abababababababababababababababababababab"), (b "dn", b "a&b=c+d e%41#f"),
       (b "tr", b "http://t/ann?x=1&y=2"), (b "x.pe", b "[::1]:80"), (b "so", b "2,4,6")] := by
  simp only [sampleLink, b_eq]; decide +kernel
example : toQuery sampleLink = b ("xt=urn:btih:abababababababababababababababababababab&dn=a%26b=c%2Bd%20e%2541%23f" ++
    "&tr=http://t/ann?x=1%26y=2&x.pe=[::1]:80&so=2,4,6") := by
  simp only [sampleLink, b_eq]; decide +kernel
example : indexSet [4, 6, 6, 2] = [2, 4, 6] := by decide +kernel
example : trackers (some (b "a")) [[b "b", b "a"], [b "c", b "b"]] = [b "a", b "b", b "c"] := by decide +kernel

private theorem magnetKeep_eq : Consts.magnetKeep = (List.range 256).filter keepLiteralN := by decide +kernel

/-- the bytes the source copies literally (extracted from `MagnetLink::push_value` on every run) are
exactly the model's — in particular none of `% & + #`, space or a control byte is among them -/
theorem keep_set_is_the_sources : ∀ n, n < 256 → (List.contains Consts.magnetKeep n) = Magnet.keepLiteralN n := by
  intro n hn
  rw [magnetKeep_eq, Bool.eq_iff_iff, List.contains_iff_mem, List.mem_filter, List.mem_range]
  exact and_iff_right hn

end Imdlv.C10
